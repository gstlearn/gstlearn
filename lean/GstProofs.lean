-- root of the proof library: one module per property
import GstProofs.Props.C01
import GstProofs.Props.C02
import GstProofs.Props.C03
import GstProofs.Props.C04
import GstProofs.Props.C05
import GstProofs.Props.C06
import GstProofs.Props.C07
import GstProofs.Props.C08
import GstProofs.Props.C09
import GstProofs.Props.C10
import GstProofs.Props.C11
import GstProofs.Props.C12
import GstProofs.Props.C13
import GstProofs.Props.C14
import GstProofs.Props.C15
import GstProofs.Props.C16
import GstProofs.Props.C17
import GstProofs.Props.C18
import GstProofs.Props.C19
import GstProofs.Props.C20
