import GstVerif.Trans.Model
import Mathlib.Algebra.Polynomial.Derivative
import Mathlib.Tactic.Ring
/-!
# Hermite polynomials of the model: orthogonality for EVERY pair of degrees

The coefficient lists of `GstVerif.Trans` are read as polynomials of `ℤ[X]` (`toPoly`), the list operations
are the ring operations, the expectation of the model is the linear functional `E` sending `X^k` to the
Gaussian moment `(k-1)!!`.  `E` satisfies Stein's identity `E[X p] = E[p']`; with `He_{n+1} = X He_n − He_n'`
and `He_{n+1}' = (n+1) He_n` this gives `E[He_m He_n] = n! δ_mn` by induction — no bound on the degrees.
-/
namespace GstProofs.Trans
open GstVerif GstVerif.Trans Polynomial

/-- a coefficient list (lowest degree first) as a polynomial -/
noncomputable def toPoly : Poly → ℤ[X]
  | [] => 0
  | a :: p => C a + X * toPoly p

@[simp] theorem toPoly_nil : toPoly [] = 0 := rfl
@[simp] theorem toPoly_cons (a : Int) (p : Poly) : toPoly (a :: p) = C a + X * toPoly p := rfl

theorem toPoly_padd (p q : Poly) : toPoly (padd p q) = toPoly p + toPoly q := by
  fun_induction padd p q with
  | case1 q => simp
  | case2 p => simp
  | case3 a p b q ih =>
    simp only [toPoly_cons, ih, C_add]
    ring

theorem toPoly_pscale (c : Int) (p : Poly) : toPoly (pscale c p) = C c * toPoly p := by
  induction p with
  | nil => simp [pscale]
  | cons a p ih =>
    rw [show pscale c (a :: p) = (c * a) :: pscale c p from rfl, toPoly_cons, ih, toPoly_cons, C_mul,
      mul_add, mul_left_comm]

theorem toPoly_pshift (p : Poly) : toPoly (pshift p) = X * toPoly p := by simp [pshift]

theorem toPoly_pmul (p q : Poly) : toPoly (pmul p q) = toPoly p * toPoly q := by
  induction p with
  | nil => simp [pmul]
  | cons a p ih =>
    simp only [pmul, toPoly_padd, toPoly_pscale, toPoly_pshift, ih, toPoly_cons]
    ring

theorem toPoly_eq_sum (p : Poly) :
    toPoly p = ∑ k ∈ Finset.range p.length, monomial k (p.getD k 0) := by
  induction p with
  | nil => rfl
  | cons a p ih =>
    rw [toPoly_cons, ih, List.length_cons, Finset.sum_range_succ', Finset.mul_sum, add_comm]
    simp only [X_mul_monomial, List.getD_cons_succ, List.getD_cons_zero, monomial_zero_left]

/-- `He_n` as a polynomial -/
noncomputable def H (n : Nat) : ℤ[X] := toPoly (hePoly n)

theorem H_zero : H 0 = 1 := by simp [H, hePoly]
theorem H_one : H 1 = X := by simp [H, hePoly]
theorem H_rec (n : Nat) : H (n + 2) = X * H (n + 1) - C ((n : ℤ) + 1) * H n := by
  simp only [H, hePoly, toPoly_padd, toPoly_pshift, toPoly_pscale, C_neg]
  ring

/-- proved together: the derivative step uses the first identity at `n` -/
theorem H_succ_deriv : ∀ n : Nat,
    H (n + 1) = X * H n - derivative (H n) ∧ derivative (H (n + 1)) = C ((n : ℤ) + 1) * H n
  | 0 => by simp [H_one, H_zero]
  | n + 1 => by
    obtain ⟨hs, hd⟩ := H_succ_deriv n
    refine ⟨by rw [H_rec, hd], ?_⟩
    rw [H_rec, derivative_sub, derivative_mul, derivative_mul, derivative_X, derivative_C, hd, hs]
    simp only [Nat.cast_succ, C_add, C_1]
    ring

/-- `He_{n+1}' = (n+1) He_n` -/
theorem H_deriv_succ (n : Nat) : derivative (H (n + 1)) = C ((n : ℤ) + 1) * H n := (H_succ_deriv n).2

/-- `He_{n+1} = X He_n − He_n'` -/
theorem H_succ (n : Nat) : H (n + 1) = X * H n - derivative (H n) := (H_succ_deriv n).1

/-- the expectation under the standard Gaussian law, as a linear functional on `ℤ[X]` -/
noncomputable def E : ℤ[X] →ₗ[ℤ] ℤ := Polynomial.lsum fun k => (gaussMoment k) • LinearMap.id

theorem E_monomial (k : Nat) (a : ℤ) : E (monomial k a) = gaussMoment k * a := by
  simp [E, Polynomial.lsum_apply, Polynomial.sum_monomial_index]

theorem E_C_mul (a : ℤ) (p : ℤ[X]) : E (C a * p) = a * E p := by
  rw [← smul_eq_C_mul, E.map_smul, smul_eq_mul]

/-- Stein's identity -/
theorem E_stein (p : ℤ[X]) : E (X * p) = E (derivative p) := by
  induction p using Polynomial.induction_on' with
  | add p q hp hq => rw [mul_add, E.map_add, derivative_add, E.map_add, hp, hq]
  | monomial k a =>
    rw [X_mul_monomial, E_monomial, derivative_monomial, E_monomial]
    cases k with
    | zero => simp [gaussMoment]
    | succ j =>
      simp only [gaussMoment, Nat.add_sub_cancel]
      push_cast
      ring

/-- integration by parts -/
theorem E_H_succ_mul (n : Nat) (q : ℤ[X]) : E (H (n + 1) * q) = E (H n * derivative q) := by
  rw [H_succ, sub_mul, E.map_sub, mul_assoc, E_stein, derivative_mul, E.map_add, add_sub_cancel_left]

theorem E_H_succ (n : Nat) : E (H (n + 1)) = 0 := by
  rw [← mul_one (H (n + 1)), E_H_succ_mul, derivative_one, mul_zero, E.map_zero]

theorem fact_eq (n : Nat) : fact n = (n.factorial : ℤ) := by
  induction n with
  | zero => rfl
  | succ n ih =>
    simp only [fact, ih, Nat.factorial_succ]
    push_cast
    ring

/-- **orthogonality for every pair of degrees** -/
theorem E_H_mul (m n : Nat) : E (H m * H n) = if m = n then fact n else 0 := by
  induction m generalizing n with
  | zero =>
    cases n with
    | zero =>
      rw [H_zero, mul_one, ← monomial_zero_one, E_monomial]
      rfl
    | succ k =>
      rw [H_zero, one_mul, E_H_succ]
      rfl
  | succ m ih =>
    cases n with
    | zero =>
      rw [H_zero, mul_one, E_H_succ]
      rfl
    | succ k =>
      rw [E_H_succ_mul, H_deriv_succ, mul_left_comm, E_C_mul, ih k]
      simp only [Nat.add_right_cancel_iff, fact, mul_ite, mul_zero]

theorem expect_eq (p : Poly) : expect p = E (toPoly p) := by
  rw [toPoly_eq_sum, map_sum]
  simp only [E_monomial, mul_comm (gaussMoment _)]
  -- by definition of `Finset.sum` over `Finset.range`
  rfl

end GstProofs.Trans
