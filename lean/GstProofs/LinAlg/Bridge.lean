import GstVerif.LinAlg.Mat
import Mathlib.Data.Matrix.Mul
import Mathlib.Algebra.BigOperators.Fin

/-! Bridge between the executable list matrices (`GstVerif.LinAlg.Mat`) and Mathlib's `Matrix`:
every algebraic law of `Matrix` transfers to the model (C11, reused by C01/C14/C15).

Every operation of the model is `Mat.ofFn r c f` for its textbook entry function `f`: `toMatrix_ofFn`
and `sumRange_eq` carry every transfer.  Dimensions of an operation reduce to those of its arguments
by `rfl`, so `hc : A.c = n` also proves `A.transpose.r = n`. -/
namespace GstProofs.LinAlg
open GstVerif GstVerif.LinAlg

/-- the Mathlib matrix read off a model matrix, at prescribed dimensions -/
def toMatrix (m n : Nat) (A : Mat) : Matrix (Fin m) (Fin n) ℚ := fun i j => A.get i j

def toVec (n : Nat) (x : List Q) : Fin n → ℚ := fun i => x.getD i 0

theorem getD_map_range {α} (n : Nat) (f : Nat → α) (d : α) (i : Nat) (h : i < n) :
    ((List.range n).map f).getD i d = f i := by
  simp [List.getD, h]

theorem get_ofFn (r c : Nat) (f : Nat → Nat → Q) (i j : Nat) (hi : i < r) (hj : j < c) :
    (Mat.ofFn r c f).get i j = f i j := by
  unfold Mat.get Mat.ofFn
  simp only
  rw [getD_map_range r _ [] i hi, getD_map_range c _ 0 j hj]

theorem toMatrix_ofFn {r c m n : Nat} (hr : r = m) (hc : c = n) (f : Nat → Nat → Q) (i : Fin m)
    (j : Fin n) : toMatrix m n (Mat.ofFn r c f) i j = f i j :=
  get_ofFn r c f i j (hr ▸ i.2) (hc ▸ j.2)

theorem toVec_map_range {r n : Nat} (hr : r = n) (f : Nat → Q) (i : Fin n) :
    toVec n ((List.range r).map f) i = f i :=
  getD_map_range r f 0 i (hr ▸ i.2)

theorem sumRange_eq (n : Nat) (f : Nat → Q) : sumRange n f = ∑ k : Fin n, f k := by
  rw [← Finset.sum_range]
  rfl

/-- product: the model's explicit double loop is Mathlib's matrix product -/
theorem toMatrix_mul (m n p : Nat) (A B : Mat) (hA : A.r = m) (hAc : A.c = n) (hB : B.c = p) :
    toMatrix m p (A.mul B) = toMatrix m n A * toMatrix n p B := by
  subst hAc
  ext i j
  rw [Matrix.mul_apply]
  exact (toMatrix_ofFn hA hB _ i j).trans (sumRange_eq _ _)

theorem toMatrix_transpose (m n : Nat) (A : Mat) (hr : A.r = m) (hc : A.c = n) :
    toMatrix n m A.transpose = (toMatrix m n A).transpose :=
  Matrix.ext fun i j => toMatrix_ofFn hc hr _ i j

theorem toMatrix_lin (m n : Nat) (a b : Q) (A B : Mat) (hr : A.r = m) (hc : A.c = n) :
    toMatrix m n (Mat.lin a A b B) = a • toMatrix m n A + b • toMatrix m n B :=
  Matrix.ext fun i j => toMatrix_ofFn hr hc _ i j

theorem toMatrix_id (n : Nat) : toMatrix n n (Mat.id n) = (1 : Matrix (Fin n) (Fin n) ℚ) := by
  ext i j
  rw [Mat.id, toMatrix_ofFn rfl rfl, Matrix.one_apply]
  simp only [Fin.ext_iff]

theorem toMatrix_diag (n : Nat) (v : List Q) (h : v.length = n) :
    toMatrix n n (Mat.diag v) = Matrix.diagonal (toVec n v) := by
  ext i j
  rw [Mat.diag, toMatrix_ofFn h h, Matrix.diagonal_apply]
  simp only [Fin.ext_iff, toVec]

end GstProofs.LinAlg
