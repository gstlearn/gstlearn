/-!
One step of a positional code `quotient * radix + digit`, in both directions, for C's `/` on `int`
(`Int.tdiv`) on non-negative numbers.
-/
namespace GstProofs

theorem digit_compose {a b m r : Int} (ha : 0 ≤ a) (ham : a < m) (hb : 0 ≤ b) (hbr : b < r) :
    (0 ≤ a * r + b ∧ a * r + b < r * m) ∧ (a * r + b).tdiv r = a := by
  have hr : 0 < r := Int.lt_of_le_of_lt hb hbr
  have h0 : 0 ≤ a * r + b := Int.add_nonneg (Int.mul_nonneg ha (Int.le_of_lt hr)) hb
  refine ⟨⟨h0, ?_⟩, ?_⟩
  · calc a * r + b < a * r + r := Int.add_lt_add_left hbr _
      _ = r * (a + 1) := by rw [Int.mul_add, Int.mul_one, Int.mul_comm]
      _ ≤ r * m := Int.mul_le_mul_of_nonneg_left ham (Int.le_of_lt hr)
  · rw [Int.tdiv_eq_ediv_of_nonneg h0, Int.add_comm, Int.add_mul_ediv_right _ _ (Int.ne_of_gt hr),
      Int.ediv_eq_zero_of_lt hb hbr, Int.zero_add]

theorem digit_decompose {p m r : Int} (hp : 0 ≤ p) (hr : 0 < r) (hpm : p < r * m) :
    (0 ≤ p.tdiv r ∧ p.tdiv r < m) ∧ (0 ≤ p - p.tdiv r * r ∧ p - p.tdiv r * r < r) := by
  have hd : p - p.tdiv r * r = p % r := by
    rw [Int.tdiv_eq_ediv_of_nonneg hp, Int.emod_def, Int.mul_comm]
  rw [hd, Int.tdiv_eq_ediv_of_nonneg hp]
  exact ⟨⟨Int.ediv_nonneg hp (Int.le_of_lt hr), Int.ediv_lt_of_lt_mul hr (Int.mul_comm r m ▸ hpm)⟩,
    Int.emod_nonneg _ (Int.ne_of_gt hr), Int.emod_lt_of_pos _ hr⟩

end GstProofs
