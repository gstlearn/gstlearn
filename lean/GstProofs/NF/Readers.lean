import GstVerif.NF.Model
/-!
`nextWord` (`_recordRead`) and `readVecLines` (`_recordReadVec`) begin in the same way: they drop every
blank line and every line starting with a comment, and act on the first line left.  `skipJunk` names
that step, and each reader is an explicit function of `skipJunk` of its input.
-/
namespace GstProofs.NF
open GstVerif GstVerif.NF

theorem isComment_hash : isComment "#" = true := by decide +kernel

theorem tokOK_notComment {t : String} (h : tokOK t = true) : isComment t = false := by
  simp only [tokOK, Bool.and_eq_true, Bool.not_eq_true'] at h
  exact h.1.2

theorem isDataLine_of_comment {t : String} {l : Line} (h : isComment t = true) :
    isDataLine (t :: l) = false := by
  rw [isDataLine, h]; rfl

theorem isDataLine_of_notComment {t : String} {l : Line} (h : isComment t = false) :
    isDataLine (t :: l) = true := by
  rw [isDataLine, h]; rfl

theorem isDataLine_hash (l : Line) : isDataLine ("#" :: l) = false :=
  isDataLine_of_comment isComment_hash

/-- the form under which `rec_roundtrip` and `readDims_roundtrip` say that the rest of a line is junk -/
theorem isDataLine_eq_false_iff {l : Line} :
    isDataLine l = false ↔ ∀ t ∈ l.head?, isComment t = true := by
  cases l <;> simp [isDataLine]

theorem isDataLine_of_tokOK {l : Line} (hne : l ≠ []) (hok : ∀ t ∈ l, tokOK t = true) :
    isDataLine l = true := by
  cases l with
  | nil => exact absurd rfl hne
  | cons t ts => exact isDataLine_of_notComment (tokOK_notComment (hok t List.mem_cons_self))

theorem sigTokens_of_tokOK {l : Line} (hok : ∀ t ∈ l, tokOK t = true) : sigTokens l = l := by
  have := List.takeWhile_append_of_pos (p := fun t => !isComment t) (l₂ := [])
    (fun t ht => by rw [tokOK_notComment (hok t ht)]; rfl)
  simpa [sigTokens] using this

def skipJunk (ls : List Line) : List Line := ls.dropWhile (!isDataLine ·)

theorem skipJunk_junk {l : Line} (h : isDataLine l = false) (ls : List Line) :
    skipJunk (l :: ls) = skipJunk ls :=
  List.dropWhile_cons_of_pos (by simp [h])

theorem skipJunk_append {junk : List Line} {l : Line} (hj : ∀ j ∈ junk, isDataLine j = false)
    (hl : isDataLine l = true) (rest : List Line) : skipJunk (junk ++ l :: rest) = l :: rest := by
  rw [skipJunk, List.dropWhile_append_of_pos (by simpa using hj),
    List.dropWhile_cons_of_neg (by simp [hl])]

theorem skipJunk_data {l : Line} (h : isDataLine l = true) (ls : List Line) :
    skipJunk (l :: ls) = l :: ls :=
  skipJunk_append (junk := []) (by simp) h ls

theorem nextWord_eq (cur : Line) (rest : List Line) :
    nextWord cur rest = match skipJunk (cur :: rest) with
      | (t :: c) :: r => some (t, ⟨c, r⟩)
      | _ => none := by
  fun_induction nextWord cur rest with
  | case1 t cur h => rw [skipJunk_junk (isDataLine_of_comment h)]; rfl
  | case2 t cur h l ls ih => rw [skipJunk_junk (isDataLine_of_comment h), ih]
  | case3 t cur rest h => rw [skipJunk_data (isDataLine_of_notComment (Bool.not_eq_true _ ▸ h))]
  | case4 => rfl
  | case5 l ls ih => rw [skipJunk_junk rfl, ih]

theorem readRec_eq (dflt : String) (cur : Line) (rest : List Line) :
    readRec dflt ⟨cur, rest⟩ = match skipJunk (cur :: rest) with
      | (t :: c) :: r => (t, ⟨c, r⟩)
      | _ => (dflt, ⟨[], []⟩) := by
  rw [readRec, nextWord_eq]
  rcases skipJunk (cur :: rest) with _ | ⟨_ | ⟨t, c⟩, r⟩ <;> rfl

theorem readVecLines_eq (n : Nat) (ls : List Line) :
    readVecLines n ls = match skipJunk ls with
      | [] => if n = 0 then some ([], []) else none
      | l :: r => if (sigTokens l).length = n then some (sigTokens l, r) else none := by
  induction ls with
  | nil => rfl
  | cons l ls ih =>
    cases h : isDataLine l
    · rw [skipJunk_junk h, ← ih]; simp [readVecLines, h]
    · rw [skipJunk_data h]; simp [readVecLines, h]

theorem readVec_zero (s : Stream) : readVec 0 s = some ([], s) := rfl

theorem readVec_of_ne {n : Nat} (h : n ≠ 0) (cur : Line) (rest : List Line) :
    readVec n ⟨cur, rest⟩ = (readVecLines n (cur :: rest)).map fun (toks, ls) => (toks, ⟨[], ls⟩) :=
  if_neg h

end GstProofs.NF
