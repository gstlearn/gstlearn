import GstVerif.Neigh.Model
import Mathlib.Tactic.Linarith
import Mathlib.Data.List.Sort

/-! The two sorts of the moving-neighbourhood model are Mathlib's insertion sort; the per-sector cap
and the quota selection keep sub-sequences (C06, C04). -/
namespace GstProofs.Neigh
open GstVerif GstVerif.Neigh

/- candidates at equal distance come out in reverse input order: the new one goes behind its equals -/
theorem insertByDist_eq (c : Cand) : ∀ l, insertByDist c l = l.orderedInsert (fun a b => a.dist < b.dist) c
  | [] => rfl
  | x :: xs => by rw [insertByDist, List.orderedInsert_cons, insertByDist_eq c xs]

theorem sortByDist_eq : ∀ l, sortByDist l = l.insertionSort (fun a b => a.dist < b.dist)
  | [] => rfl
  | c :: cs => by rw [sortByDist, List.insertionSort_cons, insertByDist_eq, sortByDist_eq cs]

theorem insertNat_eq (a : Nat) : ∀ l, insertNat a l = l.orderedInsert (· ≤ ·) a
  | [] => rfl
  | x :: xs => by rw [insertNat, List.orderedInsert_cons, insertNat_eq a xs]

theorem sortNat_eq : ∀ l, sortNat l = l.insertionSort (· ≤ ·)
  | [] => rfl
  | a :: as => by rw [sortNat, List.insertionSort_cons, insertNat_eq, sortNat_eq as]

theorem sortByDist_perm (l : List Cand) : (sortByDist l).Perm l :=
  sortByDist_eq l ▸ List.perm_insertionSort _ l

theorem sortNat_perm (l : List Nat) : (sortNat l).Perm l :=
  sortNat_eq l ▸ List.perm_insertionSort _ l

def SortedD (l : List Cand) : Prop := l.Pairwise (fun a b => a.dist ≤ b.dist)

/- not an instance of `List.Pairwise.orderedInsert`: the insertion compares with `<`, the order kept is `≤` -/
theorem insertByDist_sorted (c : Cand) : ∀ l, SortedD l → SortedD (insertByDist c l)
  | [], _ => List.pairwise_singleton _ _
  | x :: xs, h => by
    obtain ⟨hx, hxs⟩ := List.pairwise_cons.mp h
    rw [insertByDist]
    split
    · next hlt =>
      refine List.pairwise_cons.mpr ⟨fun b hb => ?_, h⟩
      rcases List.mem_cons.mp hb with rfl | hb
      · exact hlt.le
      · exact hlt.le.trans (hx b hb)
    · next hge =>
      refine List.pairwise_cons.mpr ⟨fun b hb => ?_, insertByDist_sorted c xs hxs⟩
      rcases (List.mem_orderedInsert _).mp (insertByDist_eq c xs ▸ hb) with rfl | hb
      · exact not_lt.mp hge
      · exact hx b hb

theorem sortByDist_sorted : ∀ l, SortedD (sortByDist l)
  | [] => List.Pairwise.nil
  | c :: cs => insertByDist_sorted c _ (sortByDist_sorted cs)

theorem capSectors_sublist (nsmax : Nat) : ∀ (l : List Cand) (cnt : List Nat),
    (capSectors nsmax l cnt).Sublist l
  | [], _ => .refl _
  | c :: cs, cnt => by
    rw [capSectors]
    split
    · exact (capSectors_sublist nsmax cs _).cons_cons c
    · exact (capSectors_sublist nsmax cs cnt).cons c

theorem takeQuota_sublist (q : List Nat) : ∀ (l : List Cand) (cnt : List Nat),
    (takeQuota q l cnt).Sublist l
  | [], _ => .refl _
  | c :: cs, cnt => by
    rw [takeQuota]
    split
    · exact (takeQuota_sublist q cs _).cons_cons c
    · exact (takeQuota_sublist q cs cnt).cons c

def lePointwise : List Nat → List Nat → Prop
  | [], [] => True
  | a :: as, b :: bs => a ≤ b ∧ lePointwise as bs
  | _, _ => False

end GstProofs.Neigh
