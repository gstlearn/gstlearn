import GstVerif.Neigh.Model
import Mathlib.Tactic.Linarith

/-! The round-robin quotas of `NeighMoving::_movingSelect` (C06) in closed form: at every moment the
quota of a sector is `min(count, L)` or `min(count, L+1)` for one common level `L`, the sectors
already visited in the current pass being one step ahead; in the end they add up to `nmaxi` or to all
there is. -/
namespace GstProofs.Neigh
open GstVerif GstVerif.Neigh

section
variable {nmaxi : Nat} {counts : List Nat} {s q n : Nat} {qs : List Nat}

theorem servePass_nil : servePass nmaxi counts s [] n = ([], n) := rfl

theorem servePass_full (h : nmaxi ≤ n) : servePass nmaxi counts s (q :: qs) n = (q :: qs, n) := by
  rw [servePass, if_pos h]

theorem servePass_skip (hn : n < nmaxi) (hq : counts.getD s 0 ≤ q) :
    servePass nmaxi counts s (q :: qs) n =
      (q :: (servePass nmaxi counts (s + 1) qs n).1, (servePass nmaxi counts (s + 1) qs n).2) := by
  rw [servePass, if_neg (Nat.not_le.mpr hn), if_pos hq]

theorem servePass_serve (hn : n < nmaxi) (hq : q < counts.getD s 0) :
    servePass nmaxi counts s (q :: qs) n =
      ((q + 1) :: (servePass nmaxi counts (s + 1) qs (n + 1)).1,
        (servePass nmaxi counts (s + 1) qs (n + 1)).2) := by
  rw [servePass, if_neg (Nat.not_le.mpr hn), if_neg (Nat.not_le.mpr hq)]

end

/-- what one pass does, exactly; `k` is the number of sectors it visits -/
theorem servePass_char (nmaxi : Nat) (counts : List Nat) : ∀ (s : Nat) (q : List Nat) (number : Nat),
    let r := servePass nmaxi counts s q number
    ∃ k, r.1.length = q.length ∧
      (∀ i, i < q.length → r.1.getD i 0 =
        if i < k ∧ q.getD i 0 < counts.getD (s + i) 0 then q.getD i 0 + 1 else q.getD i 0) ∧
      r.2 + q.sum = number + r.1.sum ∧ number ≤ r.2 ∧ (number ≤ nmaxi → r.2 ≤ nmaxi) ∧
      (k < q.length → nmaxi ≤ r.2) := by
  intro s q
  induction q generalizing s with
  | nil =>
    intro number
    rw [servePass_nil]
    exact ⟨0, rfl, fun _ h => absurd h (Nat.not_lt_zero _), rfl, le_rfl, id, fun h => absurd h (Nat.not_lt_zero _)⟩
  | cons q qs ih =>
    intro number
    replace ih := ih (s + 1)
    simp only [Nat.succ_add_eq_add_succ] at ih
    rcases Nat.lt_or_ge number nmaxi with hn | hn
    · rcases Nat.lt_or_ge q (counts.getD s 0) with hlt | hge
      · obtain ⟨k, hl, hv, hsum, hmono, hmax, hstop⟩ := ih (number + 1)
        rw [servePass_serve hn hlt]
        refine ⟨k + 1, ?_⟩
        simp only [List.length_cons, Nat.forall_lt_succ_left, List.getD_cons_zero, List.getD_cons_succ,
          List.sum_cons, Nat.add_lt_add_iff_right, Nat.zero_lt_succ, true_and, Nat.add_zero]
        exact ⟨by rw [hl], ⟨(if_pos hlt).symm, hv⟩, by omega, Nat.le_of_succ_le hmono, fun _ => hmax hn, hstop⟩
      · obtain ⟨k, hl, hv, hsum, hmono, hmax, hstop⟩ := ih number
        rw [servePass_skip hn hge]
        refine ⟨k + 1, ?_⟩
        simp only [List.length_cons, Nat.forall_lt_succ_left, List.getD_cons_zero, List.getD_cons_succ,
          List.sum_cons, Nat.add_lt_add_iff_right, Nat.zero_lt_succ, true_and, Nat.add_zero]
        exact ⟨by rw [hl], ⟨(if_neg (Nat.not_lt.mpr hge)).symm, hv⟩, by omega, hmono, hmax, hstop⟩
    · rw [servePass_full hn]
      exact ⟨0, rfl, fun i _ => (if_neg fun h => Nat.not_lt_zero i h.1).symm, rfl, le_rfl, id, fun _ => hn⟩

/-- one pass: quotas only grow, stay below the counts of the sectors they belong to, and the number
served grows by exactly the total increase -/
theorem servePass_spec (nmaxi : Nat) (counts : List Nat) : ∀ (s : Nat) (q : List Nat) (number : Nat),
    (∀ i, i < q.length → q.getD i 0 ≤ counts.getD (s + i) 0) →
    let r := servePass nmaxi counts s q number
    r.1.length = q.length ∧
    (∀ i, i < q.length → q.getD i 0 ≤ r.1.getD i 0 ∧ r.1.getD i 0 ≤ counts.getD (s + i) 0) ∧
    r.2 + q.sum = number + r.1.sum ∧ number ≤ r.2 ∧ (number ≤ nmaxi → r.2 ≤ nmaxi) := by
  intro s q number hq
  obtain ⟨k, hl, hv, hsum, hmono, hmax, -⟩ := servePass_char nmaxi counts s q number
  refine ⟨hl, fun i hi => ?_, hsum, hmono, hmax⟩
  have := hq i hi
  rw [hv i hi]
  split <;> omega

section
variable {nmaxi : Nat} {counts q : List Nat} {n : Nat}

theorem quotaLoop_zero : quotaLoop nmaxi counts 0 q n = q := rfl

theorem quotaLoop_full (fuel : Nat) (h : nmaxi ≤ n) : quotaLoop nmaxi counts fuel q n = q := by
  cases fuel with
  | zero => rfl
  | succ f => rw [quotaLoop, if_pos h]

theorem quotaLoop_succ (fuel : Nat) (h : n < nmaxi) : quotaLoop nmaxi counts (fuel + 1) q n =
    quotaLoop nmaxi counts fuel (servePass nmaxi counts 0 q n).1 (servePass nmaxi counts 0 q n).2 := by
  rw [quotaLoop, if_neg (Nat.not_le.mpr h)]

/-- the rule of the `while` loop; the invariant may mention the fuel left -/
theorem quotaLoop_induct {P : Nat → List Nat → Nat → Prop}
    (step : ∀ f q n, n < nmaxi → P (f + 1) q n →
      P f (servePass nmaxi counts 0 q n).1 (servePass nmaxi counts 0 q n).2) :
    ∀ f q n, P f q n → ∃ f' n', P f' (quotaLoop nmaxi counts f q n) n' ∧ (f' = 0 ∨ nmaxi ≤ n')
  | 0, q, n, h => ⟨0, n, quotaLoop_zero ▸ h, .inl rfl⟩
  | f + 1, q, n, h => by
    rcases Nat.lt_or_ge n nmaxi with hn | hn
    · rw [quotaLoop_succ f hn]
      exact quotaLoop_induct step f _ _ (step f q n hn h)
    · rw [quotaLoop_full _ hn]
      exact ⟨f + 1, n, h, .inr hn⟩

end

/-- loop invariant: `number = Σ q`, `q ≤ counts`, `number ≤ nmaxi` -/
theorem quotaLoop_spec (nmaxi : Nat) (counts : List Nat) : ∀ (fuel : Nat) (q : List Nat) (number : Nat),
    q.length = counts.length → (∀ i, i < q.length → q.getD i 0 ≤ counts.getD i 0) →
    number = q.sum → number ≤ nmaxi →
    let r := quotaLoop nmaxi counts fuel q number
    r.length = counts.length ∧ (∀ i, i < r.length → r.getD i 0 ≤ counts.getD i 0) ∧ r.sum ≤ nmaxi := by
  intro fuel q number hl hq hs hn
  obtain ⟨-, n', ⟨hl', hq', hs', hn'⟩, -⟩ := quotaLoop_induct
    (P := fun _ q n => q.length = counts.length ∧ (∀ i, i < q.length → q.getD i 0 ≤ counts.getD i 0) ∧
      n = q.sum ∧ n ≤ nmaxi)
    (fun _ q n _ ⟨hl, hq, hs, hn⟩ => by
      obtain ⟨l, b, e, -, u⟩ := servePass_spec nmaxi counts 0 q n (by simpa only [Nat.zero_add] using hq)
      simp only [Nat.zero_add] at b
      exact ⟨l.trans hl, fun i hi => (b i (l ▸ hi)).2, by omega, u hn⟩)
    fuel q number ⟨hl, hq, hs, hn⟩
  exact ⟨hl', hq', hs' ▸ hn'⟩

/-- state in the middle of pass `L+1`: the first `k` sectors have been visited -/
def Mid (counts : List Nat) (L k : Nat) (q : List Nat) : Prop :=
  q.length = counts.length ∧
  ∀ i, i < q.length → q.getD i 0 = if i < k then min (counts.getD i 0) (L + 1) else min (counts.getD i 0) L

section
variable {counts q : List Nat} {L k : Nat}

theorem Mid.zero (counts : List Nat) : Mid counts 0 0 (counts.map fun _ => 0) :=
  ⟨List.length_map _, fun i _ => by
    rw [if_neg (Nat.not_lt_zero i), Nat.min_zero, List.getD_eq_getElem?_getD, List.getElem?_map]
    cases counts[i]? <;> rfl⟩

theorem Mid.full (h : Mid counts L k q) (hk : counts.length ≤ k) : Mid counts (L + 1) 0 q :=
  ⟨h.1, fun i hi => by rw [h.2 i hi, if_pos (Nat.lt_of_lt_of_le hi (h.1 ▸ hk)), if_neg (Nat.not_lt_zero i)]⟩

theorem Mid.le {i : Nat} (h : Mid counts L k q) (hi : i < counts.length) : q.getD i 0 ≤ counts.getD i 0 := by
  rw [h.2 i (h.1 ▸ hi)]
  split <;> exact Nat.min_le_left _ _

theorem Mid.le_of_ne {i j : Nat} (h : Mid counts L k q) (hi : i < counts.length) (hj : j < counts.length)
    (hne : q.getD i 0 ≠ counts.getD i 0) :
    q.getD j 0 ≤ q.getD i 0 + 1 ∧ (i < j → q.getD j 0 ≤ q.getD i 0) := by
  -- sector `i` sits at its level (`L + 1` before `k`, `L` from `k` on), sector `j` at most at its own
  have hqi := h.2 i (h.1 ▸ hi)
  have hqj := h.2 j (h.1 ▸ hj)
  lia

theorem Mid.pass (h : Mid counts L 0 q) (nmaxi n : Nat) :
    let r := servePass nmaxi counts 0 q n
    ∃ k, Mid counts L k r.1 ∧ r.2 + q.sum = n + r.1.sum ∧ (n ≤ nmaxi → r.2 ≤ nmaxi) ∧
      (k < counts.length → nmaxi ≤ r.2) := by
  obtain ⟨k, hl, hv, hsum, -, hmax, hstop⟩ := servePass_char nmaxi counts 0 q n
  refine ⟨k, ⟨hl.trans h.1, fun i hi => ?_⟩, hsum, hmax, h.1 ▸ hstop⟩
  rw [hv i (hl ▸ hi), h.2 i (hl ▸ hi), if_neg (Nat.not_lt_zero i), Nat.zero_add]
  -- one more sample unless exhausted: `min c L` becomes `min c (L + 1)`
  lia

theorem level_sum (L : Nat) (q c : List Nat) (hl : q.length = c.length)
    (h : ∀ i, i < q.length → min (c.getD i 0) L ≤ q.getD i 0 ∧ q.getD i 0 ≤ c.getD i 0) :
    min L c.sum ≤ q.sum ∧ q.sum ≤ c.sum := by
  induction q generalizing c with
  | nil =>
    rw [List.length_eq_zero_iff.mp hl.symm]
    exact ⟨Nat.min_le_right _ _, le_rfl⟩
  | cons a q ih =>
    obtain ⟨b, c, rfl⟩ := List.exists_cons_of_length_eq_add_one hl.symm
    simp only [List.length_cons, Nat.forall_lt_succ_left, List.getD_cons_zero, List.getD_cons_succ] at h
    have := ih c (Nat.succ.inj hl) h.2
    simp only [List.sum_cons]
    omega

theorem Mid.sum (h : Mid counts L k q) : min L counts.sum ≤ q.sum ∧ q.sum ≤ counts.sum :=
  level_sum L q counts h.1 fun i hi => by
    rw [h.2 i hi]
    split <;> omega

end

/-- the quotas in closed form: those of some level `L` and position `k`, sharing out `nmaxi` samples
or all there is -/
theorem quotas_char (nmaxi : Nat) (counts : List Nat) :
    ∃ L k, Mid counts L k (quotas nmaxi counts) ∧ (quotas nmaxi counts).sum = min nmaxi counts.sum := by
  /- Invariant with `f` passes left: `n = Σ q ≤ nmaxi`, the quotas are at level `L`, and below `nmaxi`
  a pass is about to start (`k = 0`) with `L + f > nmaxi`, each full pass trading one unit of fuel for
  one level: out of fuel means `L > nmaxi`, and then `Mid.sum` gives `Σ q ≥ min L (Σ counts)`. -/
  obtain ⟨f, n, ⟨hs, hn, L, k, hm, hf⟩, hex⟩ := quotaLoop_induct (nmaxi := nmaxi) (counts := counts)
    (P := fun f q n => n = q.sum ∧ n ≤ nmaxi ∧
      ∃ L k, Mid counts L k q ∧ (nmaxi ≤ n ∨ k = 0 ∧ nmaxi < L + f))
    (fun f q n hn ⟨hs, _, L, k, hm, hf⟩ => by
      obtain ⟨rfl, hf⟩ := hf.resolve_left (Nat.not_le.mpr hn)
      obtain ⟨k, hm', hsum, hmax, hstop⟩ := hm.pass nmaxi n
      refine ⟨by omega, hmax hn.le, ?_⟩
      rcases Nat.lt_or_ge k counts.length with hk | hk
      · exact ⟨L, k, hm', .inl (hstop hk)⟩
      · exact ⟨L + 1, 0, hm'.full hk, .inr ⟨rfl, by omega⟩⟩)
    (nmaxi + 1) _ 0
    ⟨by rw [List.map_const', List.sum_replicate_nat, Nat.mul_zero], Nat.zero_le _, 0, 0, .zero counts,
      .inr ⟨rfl, by omega⟩⟩
  refine ⟨L, k, hm, ?_⟩
  have := hm.sum
  rw [quotas]
  lia

/-- **fairness** of the quotas: some level `L` and position `k` describe them entirely -/
theorem quotas_level (nmaxi : Nat) (counts : List Nat) : ∃ L k, Mid counts L k (quotas nmaxi counts) :=
  let ⟨L, k, h, _⟩ := quotas_char nmaxi counts
  ⟨L, k, h⟩

end GstProofs.Neigh
