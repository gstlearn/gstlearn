import Mathlib.LinearAlgebra.Matrix.NonsingularInverse

/-! Algebra of the kriging system shared by C01, C02 and C04: any field, any number of data `n` and
drift equations `p`.  `A = [Σ X; Xᵀ 0]`, `rhs = [Σ0; X0]`, `w = [λ; ν]` (`ν = −μ` in Kriging.md).
Block elimination (`schur_solve`) carries the universal, Bayesian and collocated forms of the
calculator (C04). -/
namespace GstProofs.Krig
open Matrix

variable {K : Type*} [Field K] {n p : Type*} [Fintype n] [Fintype p]

theorem mulVec_inv_mulVec [DecidableEq n] {A : Matrix n n K} (hA : IsUnit A.det) (v : n → K) :
    A *ᵥ (A⁻¹ *ᵥ v) = v := by
  rw [mulVec_mulVec, mul_nonsing_inv A hA, one_mulVec]

theorem dotProduct_mulVec_eq (X : Matrix n p K) (w : n → K) (u : p → K) :
    w ⬝ᵥ (X *ᵥ u) = (Xᵀ *ᵥ w) ⬝ᵥ u := by
  rw [dotProduct_mulVec, mulVec_transpose]

theorem block_system (S : Matrix n n K) (X : Matrix n p K) (lam S0 : n → K) (nu X0 : p → K) :
    (fromBlocks S X Xᵀ 0) *ᵥ (Sum.elim lam nu) = Sum.elim S0 X0 ↔
      (S *ᵥ lam + X *ᵥ nu = S0 ∧ Xᵀ *ᵥ lam = X0) := by
  rw [fromBlocks_mulVec, Sum.elim_eq_iff, Sum.elim_comp_inl, Sum.elim_comp_inr, zero_mulVec, add_zero]

/-- block elimination in `A x + B y = a`, `C x + D y = b`: `y` from the Schur complement of `A`,
then `x = A⁻¹ (a − B y)` -/
theorem schur_solve [DecidableEq n] (A : Matrix n n K) (B : Matrix n p K) (C : Matrix p n K) (D : Matrix p p K)
    (a : n → K) (b y : p → K) (hA : IsUnit A.det)
    (hy : (D - C * A⁻¹ * B) *ᵥ y = b - C *ᵥ (A⁻¹ *ᵥ a)) :
    A *ᵥ (A⁻¹ *ᵥ (a - B *ᵥ y)) + B *ᵥ y = a ∧ C *ᵥ (A⁻¹ *ᵥ (a - B *ᵥ y)) + D *ᵥ y = b := by
  constructor
  · rw [mulVec_inv_mulVec hA, sub_add_cancel]
  · -- expanded, `hy` and the goal both read `D y + C A⁻¹ a = b + C A⁻¹ (B y)`
    rw [sub_mulVec, ← mulVec_mulVec, ← mulVec_mulVec, sub_eq_sub_iff_add_eq_add] at hy
    rw [mulVec_sub, mulVec_sub, sub_add_eq_add_sub, sub_eq_iff_eq_add, add_comm, hy]

end GstProofs.Krig
