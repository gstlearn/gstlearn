import GstProofs.Db.Roles
import GstProofs.Db.Names

/-! The side condition `Admissible` of `C07.step_full` (explicit role numbers must not leave a gap: known
finding F4 is exactly the negation of that condition), and what `step` does for the two value
assignments, acceptance test in Prop form. -/
namespace GstProofs.Db
open GstVerif GstVerif.Db

/-- ten of the fifteen operations that need no side condition (`admissible_of_covered`; the renamings and
`switchLoc` need none either) -/
def Covered : Op → Bool
  | .delUid _ | .delCol _ | .delName _ | .delLoc _ | .clearLoc _
  | .addSamples _ _ | .delSample _ | .setArray _ _ _ | .setRow _ _ | .getRow _ _ => true
  | _ => false

/-- what an operation needs beyond a consistent table: only the role-assigning operations need
something, and only when the role number is given explicitly -/
def Admissible (s : State) : Op → Prop
  | .locUid u lt li clean => RankOK s u lt li clean
  | .locCol c lt li clean => RankOK s (uidOfCol s c) lt li clean
  | .locName n lt li clean => RanksOK lt (decide (li < 0)) (cleared s lt clean) li (idsOfName s n)
  | .locsUid us lt li clean => RanksOK lt (decide (li < 0)) (cleared s lt clean) li us
  | .locsCol cs lt li clean => RanksOK lt (decide (li < 0)) (cleared s lt clean) li (cs.map (uidOfCol s))
  | .addc _ _ _ lt li _ => lt < 0 ∨ li < 0
  | _ => True

/-- role numbers left to the library (`locatorIndex < 0`, the default of most calls) -/
def AutoRank : Op → Bool
  | .locUid _ _ li _ | .locCol _ _ li _ | .locName _ _ li _ | .locsUid _ _ li _ | .locsCol _ _ li _ => li < 0
  | .addc _ _ _ lt li _ => lt < 0 || li < 0
  | _ => true

theorem admissible_of_auto (s : State) (op : Op) (h : AutoRank op = true) : Admissible s op := by
  cases op <;> simp only [AutoRank, decide_eq_true_eq, Bool.or_eq_true] at h <;> simp only [Admissible]
  case locUid | locCol => exact Or.inl h
  case locName | locsUid | locsCol => exact ranksOK_auto _ (decide_eq_true h) ..
  case addc => exact h

theorem admissible_of_covered (s : State) (op : Op) (h : Covered op = true) : Admissible s op := by
  cases op <;> simp only [Covered, Bool.false_eq_true] at h <;> trivial

/-- admissibility along a history -/
def AdmissiblePath : State → List Op → Prop
  | _, [] => True
  | s, op :: ops => Admissible s op ∧ ∀ s1, step s op = some s1 → AdmissiblePath s1 ops

theorem admissiblePath_of_forall : ∀ (ops : List Op) (s : State), (∀ op ∈ ops, ∀ s, Admissible s op) →
    AdmissiblePath s ops
  | [], _, _ => trivial
  | op :: ops, s, h =>
    ⟨h op List.mem_cons_self s, fun s1 _ => admissiblePath_of_forall ops s1 fun o ho => h o (List.mem_cons_of_mem _ ho)⟩

theorem step_setArray (s : State) (iech u : Int) (val : Val) :
    step s (.setArray iech u val) = some
      (if 0 ≤ iech ∧ iech < (s.nech : Int) ∧ 0 ≤ colOfUid s u then
        { s with cols := s.cols.modify (colOfUid s u).toNat fun col => col.set iech.toNat val }
      else s) := by
  simp only [step, Bool.or_eq_true, Bool.not_eq_true', Bool.and_eq_false_iff, decide_eq_false_iff_not,
    decide_eq_true_eq]
  split
  · rw [if_neg (by omega)]
  · rw [if_pos (by omega)]

theorem step_setRow (s : State) (iech : Int) (vals : List Val) :
    step s (.setRow iech vals) = some
      (if vals.length = ncol s ∧ 0 ≤ iech ∧ iech < (s.nech : Int) then
        { s with cols := (s.cols.zip vals).map fun cv => cv.1.set iech.toNat cv.2 }
      else s) := by
  simp only [step, Bool.or_eq_true, Bool.not_eq_true', Bool.and_eq_false_iff, decide_eq_false_iff_not,
    decide_eq_true_eq, ne_eq]
  split
  · rw [if_neg (by omega)]
  · rw [if_pos (by omega)]

end GstProofs.Db
