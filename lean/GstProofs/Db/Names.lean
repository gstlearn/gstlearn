import GstProofs.Db.Inv
import Mathlib.Data.List.Nodup

/-! Renaming and column addition keep the Db consistent (C07): the duplicate-correcting helpers of
String.cpp (`correctNewNameForDuplicates`, `correctNamesForDuplicates`) always return lists without
duplicates, whatever the names proposed. -/
namespace GstProofs.Db
open GstVerif GstVerif.Db

theorem nodup_of_eraseIdx {α} {l : List α} (r : Nat) (hN : (l.eraseIdx r).Nodup)
    (hn : ∀ a, l[r]? = some a → a ∉ l.eraseIdx r) : l.Nodup := by
  by_cases hr : r < l.length
  · exact (List.getElem_cons_eraseIdx_perm hr).nodup_iff.mp
      (List.nodup_cons.mpr ⟨hn _ (List.getElem?_eq_getElem hr), hN⟩)
  · rwa [List.eraseIdx_of_length_le (by omega)] at hN

theorem fixNewName_spec : ∀ (fuel : Nat) (l l' : List String) (rank : Nat),
    fixNewName fuel l rank = some l' →
    l'.length = l.length ∧ l'.eraseIdx rank = l.eraseIdx rank ∧
      (∀ n, l'[rank]? = some n → n ∉ l'.eraseIdx rank)
  | 0, l, l', rank, h => by simp [fixNewName] at h
  | fuel+1, l, l', rank, h => by
    simp only [fixNewName] at h
    split at h
    next hr =>
      cases h
      exact ⟨rfl, rfl, fun n hn => by rw [hr] at hn; cases hn⟩
    next n hr =>
      split at h
      · obtain ⟨h1, h2, h3⟩ := fixNewName_spec fuel _ l' rank h
        exact ⟨by simpa using h1, by rw [h2, List.eraseIdx_set_eq], h3⟩
      next hc =>
        cases h
        exact ⟨rfl, rfl, fun m hm => by rw [hr] at hm; cases hm; simpa using hc⟩

/-- for every column index (out of range nothing is renamed) and every fuel -/
theorem Inv.rename {s : State} (h : Inv s) {fuel c : Nat} {n : String} {l : List String}
    (hf : fixNewName fuel (s.names.set c n) c = some l) : Inv { s with names := l } := by
  obtain ⟨h1, h2, h3⟩ := fixNewName_spec _ _ _ _ hf
  refine h.of_names (by simpa using h1) (nodup_of_eraseIdx c ?_ h3)
  rw [h2, List.eraseIdx_set_eq]
  exact h.namesNodup.sublist (List.eraseIdx_sublist ..)

set_option linter.unusedVariables false in
/-- a single column renamed through `correctNewNameForDuplicates`: still no duplicate -/
theorem rename_inv (s : State) (c : Nat) (n : String) (l : List String) (hc : c < s.names.length) (h : Inv s)
    (hf : fixNewName (s.names.length + 2) (s.names.set c n) c = some l) : Inv { s with names := l } :=
  h.rename hf

theorem fixOne_spec : ∀ (fuel : Nat) (prev : List String) (n n' : String),
    fixOne fuel prev n = some n' → n' ∉ prev
  | 0, _, _, _, h => by simp [fixOne] at h
  | fuel+1, prev, n, n', h => by
    simp only [fixOne] at h
    split at h
    · exact fixOne_spec fuel prev _ n' h
    next hc => cases h; simpa using hc

theorem fixNamesGo_spec : ∀ (rest acc r : List String), acc.Nodup →
    fixNamesGo acc rest = some r → r.Nodup ∧ r.length = acc.length + rest.length
  | [], acc, r, hN, h => by
    cases h
    exact ⟨List.nodup_reverse.mpr hN, by simp⟩
  | n :: rest, acc, r, hN, h => by
    simp only [fixNamesGo] at h
    split at h
    · cases h
    next n' hf =>
      obtain ⟨a, b⟩ := fixNamesGo_spec rest (n' :: acc) r (List.nodup_cons.mpr ⟨fixOne_spec _ _ _ _ hf, hN⟩) h
      exact ⟨a, by simp at b ⊢; omega⟩

theorem fixNames_spec (l r : List String) (h : fixNames l = some r) : r.Nodup ∧ r.length = l.length := by
  simpa using fixNamesGo_spec l [] r List.nodup_nil h

theorem renameSeq_length (name : String) : ∀ (cs : List Int) (names : List String) (i : Nat),
    (renameSeq names name i cs).length = names.length
  | [], _, _ => rfl
  | c :: cs, names, i => by
    rw [renameSeq, renameSeq_length name cs]
    split <;> simp

theorem length_multipleNames (radix : String) (n : Nat) : (multipleNames radix n).length = n := by
  simp [multipleNames]

/-- `addColumnsByConstant`: the table after the `n` new columns have been appended and named (before the
roles are assigned) -/
theorem addColumns_inv (s : State) (n : Nat) (val : Val) (names' : List String) (h : Inv s)
    (newNames : List String) (hnew : newNames.length = n)
    (hfix : fixNames (s.names ++ newNames) = some names') :
    Inv { s with nextUid := s.nextUid + n, uids := s.uids ++ (List.range n).map (· + s.nextUid), names := names',
                 cols := s.cols ++ List.replicate n (List.replicate s.nech val) } := by
  obtain ⟨a, b⟩ := fixNames_spec _ _ hfix
  have hnewU : ∀ u ∈ (List.range n).map (· + s.nextUid), s.nextUid ≤ u ∧ u < s.nextUid + n := by
    simp only [List.mem_map, List.mem_range]
    rintro _ ⟨i, hi, rfl⟩; omega
  exact {
    uidsNodup := List.nodup_append.mpr ⟨h.uidsNodup, List.nodup_range.map fun _ _ => Nat.add_right_cancel,
      fun x hx y hy e => by have := h.uidsLt x hx; have := hnewU y hy; omega⟩
    uidsLt := fun u hu => (List.mem_append.mp hu).elim (fun hu => Nat.lt_add_right n (h.uidsLt u hu))
      fun hu => (hnewU u hu).2
    namesLen := by simp [b, h.namesLen, hnew]
    namesNodup := a
    colsLen := by simp [h.colsLen]
    colsRect := fun c hc => (List.mem_append.mp hc).elim (h.colsRect c) fun hc => by
      rw [(List.mem_replicate.mp hc).2, List.length_replicate]
    locLen := h.locLen
    rolesLive := fun v hv => List.mem_append_left _ (h.rolesLive v hv)
    rolesNodup := h.rolesNodup }

end GstProofs.Db
