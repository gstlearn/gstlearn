import GstProofs.Db.Inv

/-! Role assignment (`setLocatorByUID` and its loops, `switchLocator`) keeps the Db consistent (C07),
under the one condition the unchanged library needs (known finding F4): an explicit role number
must not exceed the number of roles of that type held by the *other* columns.

The role table is reasoned about as the multiset of its entries (`flatten` up to `Perm`): rewriting
one cell changes that multiset by what the cell gains or loses. -/
namespace GstProofs.Db
open GstVerif GstVerif.Db

theorem flatten_perm_getD {α} : ∀ (L : List (List α)) (t : Nat),
    L.flatten.Perm (L.getD t [] ++ (L.modify t fun _ => []).flatten)
  | [], _ => by simp
  | a :: L, 0 => by simp
  | a :: L, t+1 => by
    simpa using ((flatten_perm_getD L t).append_left a).trans (List.perm_append_comm_assoc ..)

theorem flatten_modify_subperm {α} (f : List α → List α) (g : List α) : ∀ (L : List (List α)) (t : Nat),
    (f (L.getD t [])).Subperm (g ++ L.getD t []) → (L.modify t f).flatten.Subperm (g ++ L.flatten)
  | [], _, _ => by simp
  | a :: L, 0, hf => by
    simpa using (List.subperm_append_right L.flatten).mpr hf
  | a :: L, t+1, hf => by
    have ih := (List.subperm_append_left a).mpr (flatten_modify_subperm f g L t (by simpa using hf))
    simpa using ih.trans (List.perm_append_comm_assoc ..).subperm

theorem flatten_clear_subperm {α} (L : List (List α)) (t : Nat) :
    (L.modify t fun _ => []).flatten.Subperm L.flatten :=
  flatten_modify_subperm _ [] L t List.nil_subperm

theorem clearLoc_inv (s : State) (t : Nat) (h : Inv s) :
    Inv { s with loc := modifyLoc s.loc t (fun _ => []) } :=
  h.of_loc_subperm (List.length_modify ..) (flatten_clear_subperm ..)

theorem setAt_subperm (l : List Nat) (k u : Nat) (hk : k ≤ l.length) : (setAt l k u).Subperm (u :: l) := by
  unfold setAt
  rcases Nat.lt_or_eq_of_le hk with h | rfl
  · rw [if_pos h]
    exact (List.set_perm_cons_eraseIdx h u).subperm.trans
      ((List.subperm_cons u).mpr (List.eraseIdx_sublist ..).subperm)
  · -- `k = l.length`: one padding entry, overwritten at once, i.e. `l ++ [u]`
    simp [(List.perm_append_singleton u l).subperm]

/-- the role list into which `setLocatorByUID` inserts: after the optional clearing of the type and
after `u` has been removed from every role list -/
def rolesBefore (s : State) (u : Int) (lt : Int) (clean : Bool) : List Nat :=
  let loc0 := if clean && 0 ≤ lt then modifyLoc s.loc lt.toNat (fun _ => []) else s.loc
  ((loc0.map (eraseFirst u.toNat)).getD lt.toNat [])

/-- admissible role number: automatic, or at most one past the roles held by the other columns
(beyond that the library pads the list with uid 0: known finding F4) -/
def RankOK (s : State) (u lt li : Int) (clean : Bool) : Prop :=
  li < 0 ∨ li.toNat ≤ (rolesBefore s u lt clean).length

theorem getD_mem_or_nil (L : List (List Nat)) (t : Nat) : L.getD t [] ∈ L ∨ L.getD t [] = [] := by
  rw [List.getD_eq_getElem?_getD]
  cases h : L[t]? with
  | none => exact Or.inr rfl
  | some a => exact Or.inl (List.mem_of_getElem? h)

theorem mem_of_colOfUid (s : State) (u : Int) (hc : ¬ colOfUid s u < 0) : u.toNat ∈ s.uids := by
  unfold colOfUid at hc
  split at hc
  · split at hc
    · exact List.mem_of_getElem? (idxOf?_some _ _ _ ‹_›).2
    · exact absurd (by decide) hc
  · exact absurd (by decide) hc

/-- `setLocatorByUID` keeps the table consistent for every admissible role number -/
theorem setLocatorByUID_inv (s : State) (u lt li : Int) (clean : Bool) (h : Inv s)
    (hr : RankOK s u lt li clean) : Inv (setLocatorByUID s u lt li clean) := by
  unfold setLocatorByUID
  split
  · exact h
  next hcond =>
  extract_lets loc0 loc1 li'
  have h0 : loc0.length = s.loc.length ∧ loc0.flatten.Subperm s.loc.flatten := by
    unfold loc0; split
    · exact ⟨List.length_modify .., flatten_clear_subperm ..⟩
    · exact ⟨rfl, .refl _⟩
  have h1len : loc1.length = s.loc.length := (List.length_map ..).trans h0.1
  have h1 : loc1.flatten.Subperm s.loc.flatten := (flatten_map_erase_sublist ..).subperm.trans h0.2
  split
  · exact h.of_loc_subperm h1len h1
  · -- `u` was erased from every cell, then enters one: the entries are among `u :: loc1.flatten`
    have h1u : u.toNat ∉ loc1.flatten := not_mem_flatten_map_erase _ _ (h0.2.nodup h.rolesNodup)
    have hmem : u.toNat ∈ s.uids := mem_of_colOfUid s u fun hc => hcond (by simp [hc])
    refine h.of_loc (r := u.toNat :: loc1.flatten) ((List.length_modify ..).trans (h1len.trans h.locLen))
      (flatten_modify_subperm _ [_] _ _ (setAt_subperm _ _ _ ?_))
      (List.nodup_cons.mpr ⟨h1u, h1.nodup h.rolesNodup⟩)
      (List.forall_mem_cons.mpr ⟨hmem, fun v hv => h.rolesLive v (h1.subset hv)⟩)
    unfold li'; split
    · rw [if_pos (by omega)]; exact Nat.le_of_eq (Int.toNat_natCast _)
    · exact hr.resolve_left ‹_›

/-- admissible explicit role numbers along the loop `for i: setLocatorByUID(us[i], t, li + i)` -/
def RanksOK (lt : Int) (auto : Bool) : State → Int → List Int → Prop
  | _, _, [] => True
  | s, li, u :: us =>
    RankOK s u lt (if auto then -1 else li) false ∧
    RanksOK lt auto (setLocatorByUID s u lt (if auto then -1 else li) false) (li + 1) us

theorem ranksOK_auto (lt : Int) {auto : Bool} (ha : auto = true) :
    ∀ (us : List Int) (s : State) (li : Int), RanksOK lt auto s li us
  | [], _, _ => trivial
  | _ :: us, _, _ => ⟨Or.inl (by simp [ha]), ranksOK_auto lt ha us _ _⟩

theorem setLocatorsGo_inv (lt : Int) (auto : Bool) : ∀ (us : List Int) (s : State) (li : Int),
    Inv s → RanksOK lt auto s li us → Inv (setLocatorsGo s lt auto li us)
  | [], _, _, h, _ => h
  | u :: us, s, _, h, hr =>
    setLocatorsGo_inv lt auto us _ _ (setLocatorByUID_inv s u lt _ false h hr.1) hr.2

/-- the state on which the loop of `setLocatorsByUIDs` starts -/
def cleared (s : State) (lt : Int) (clean : Bool) : State :=
  if clean && 0 ≤ lt then { s with loc := modifyLoc s.loc lt.toNat (fun _ => []) } else s

theorem cleared_inv (s : State) (lt : Int) (clean : Bool) (h : Inv s) : Inv (cleared s lt clean) := by
  unfold cleared; split
  · exact clearLoc_inv s lt.toNat h
  · exact h

theorem setLocatorsByUIDs_inv (s : State) (us : List Int) (lt li : Int) (clean : Bool) (h : Inv s)
    (hr : RanksOK lt (decide (li < 0)) (cleared s lt clean) li us) :
    Inv (setLocatorsByUIDs s us lt li clean) :=
  setLocatorsGo_inv lt _ us _ li (cleared_inv s lt clean h) hr

/-- `switchLocator(tin, tout)`, `tin ≠ tout`: the roles of type `tin` are appended to those of `tout` -/
theorem switchLoc_inv (s : State) (tin tout : Nat) (hne : tin ≠ tout) (h : Inv s) :
    Inv { s with loc := modifyLoc (modifyLoc s.loc tout (fun _ => locList s tout ++ locList s tin)) tin (fun _ => []) } := by
  refine h.of_loc_subperm (by simp [modifyLoc]) ?_
  -- with the cell `tin` put back in front, this is the table whose cell `tout` gained `tin`
  have hM : (modifyLoc s.loc tout fun _ => locList s tout ++ locList s tin).getD tin [] = locList s tin := by
    simp [modifyLoc, locList, List.getD_eq_getElem?_getD, List.getElem?_modify_ne _ _ hne.symm]
  rw [← List.subperm_append_left (locList s tin)]
  exact (hM ▸ (flatten_perm_getD _ tin).symm).subperm.trans
    (flatten_modify_subperm _ _ _ _ List.perm_append_comm.subperm)

end GstProofs.Db
