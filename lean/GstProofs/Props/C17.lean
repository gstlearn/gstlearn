import GstVerif.Fit.Model
import GstProofs.Basic.Digit
import Mathlib.Data.Matrix.Mul
import Mathlib.LinearAlgebra.Matrix.DotProduct
import Mathlib.Algebra.BigOperators.Ring.Finset
import Mathlib.Algebra.Order.BigOperators.Ring.Finset
import Mathlib.Tactic.Ring
import Mathlib.Tactic.Linarith
/-!
# C17 — automatic model fitting returns a usable, constraint-abiding model

What makes the result of the sill fitting valid whatever the experimental variogram: the matrices
of sills are rebuilt from an orthonormal eigen-basis with the negative eigenvalues truncated to
zero (`AModelOptimSills`), and such a matrix is positive semi-definite (`truncated_psd`, any number
of variables); a bound constraint enforced by clamping is satisfied for every proposed value
(`clamp_within`, `clamp_idem`).  That the *returned* model satisfies all the requirements (PSD
sills by exact certificate, positive ranges, every user constraint, isotropy / locked rotation,
save / reload / kriging) is checked on the library for generated variograms and constraint sets
(`harness/vh_c17.cpp`), each condition being decided by the Lean driver.

The bookkeeping that carries the user's constraints to the optimiser is modelled (`GstVerif/Fit/Model.lean`)
and tied to the library's own functions through a verification hook: packing of the five designators
of a parameter into one identifier and back (`decode_encode`, `encode_injective`, `encode_range`: no
two parameters share an identifier, no 32-bit overflow), look-up of a constraint (`cget_sound`,
`cget_complete`, `equal_answers`), merge into the bounds and initial value of the parameter
(`affect_bounds`: bounds only tighten; `affect_within`: the initial value lies in the merged bounds,
under a side condition whose necessity is witnessed by `affect_within_needs_side`; `equality_fixes`),
compression of the undefined parameters (`compress_*`).
-/
namespace GstProofs.C17
open Matrix GstVerif GstVerif.Fit

variable {n : Type*} [Fintype n] [DecidableEq n]

/-- `U · diag(d) · Uᵀ` with non-negative `d` has a non-negative quadratic form (no hypothesis on
`U` is even needed): the matrix of sills obtained by truncating the negative eigenvalues is valid -/
theorem truncated_psd (U : Matrix n n ℚ) (d : n → ℚ) (hd : ∀ i, 0 ≤ d i) (v : n → ℚ) :
    0 ≤ dotProduct v ((U * Matrix.diagonal d * U.transpose).mulVec v) := by
  have h : dotProduct v ((U * Matrix.diagonal d * U.transpose).mulVec v)
      = ∑ i, d i * (U.transpose.mulVec v i) ^ 2 := by
    rw [← Matrix.mulVec_mulVec, ← Matrix.mulVec_mulVec, Matrix.dotProduct_mulVec, ← Matrix.mulVec_transpose]
    simp only [dotProduct, Matrix.mulVec_diagonal]
    exact Finset.sum_congr rfl fun i _ => by ring
  rw [h]
  exact Finset.sum_nonneg fun i _ => mul_nonneg (hd i) (sq_nonneg _)

/-- truncation itself -/
def trunc (x : ℚ) : ℚ := if x < 0 then 0 else x
theorem trunc_nonneg (x : ℚ) : 0 ≤ trunc x := by
  unfold trunc
  split_ifs with h
  exacts [le_rfl, not_lt.1 h]

/-- clamping a proposed parameter into `[lo, hi]` -/
def clamp (lo hi x : ℚ) : ℚ := if x < lo then lo else if hi < x then hi else x
theorem clamp_within (lo hi x : ℚ) (h : lo ≤ hi) : lo ≤ clamp lo hi x ∧ clamp lo hi x ≤ hi := by
  unfold clamp
  split_ifs with h1 h2
  exacts [⟨le_rfl, h⟩, ⟨h, le_rfl⟩, ⟨not_lt.1 h1, not_lt.1 h2⟩]

theorem clamp_of_mem {lo hi x : ℚ} (h1 : lo ≤ x) (h2 : x ≤ hi) : clamp lo hi x = x := by
  rw [clamp, if_neg (not_lt.2 h1), if_neg (not_lt.2 h2)]

theorem clamp_idem (lo hi x : ℚ) (h : lo ≤ hi) : clamp lo hi (clamp lo hi x) = clamp lo hi x :=
  clamp_of_mem (clamp_within lo hi x h).1 (clamp_within lo hi x h).2

theorem Pid.valid_iff (f : Pid) : f.valid = true ↔
    (0 ≤ f.imod ∧ f.imod < 50) ∧ (0 ≤ f.icov ∧ f.icov < 50) ∧ (0 ≤ f.icons ∧ f.icons < 50) ∧
    (0 ≤ f.ivar ∧ f.ivar < 50) ∧ (0 ≤ f.jvar ∧ f.jvar < 50) :=
  decide_eq_true_iff

theorem encode_spec (f : Pid) (h : f.valid = true) :
    (0 ≤ encode f ∧ encode f < 312500000) ∧ decode (encode f) = f := by
  obtain ⟨⟨a0, a1⟩, ⟨b0, b1⟩, ⟨c0, c1⟩, ⟨d0, d1⟩, ⟨e0, e1⟩⟩ := (Pid.valid_iff f).1 h
  obtain ⟨⟨A0, A1⟩, tA⟩ := digit_compose a0 a1 b0 b1
  obtain ⟨⟨B0, B1⟩, tB⟩ := digit_compose A0 A1 c0 c1
  obtain ⟨⟨C0, C1⟩, tC⟩ := digit_compose B0 B1 d0 d1
  obtain ⟨D, tD⟩ := digit_compose C0 C1 e0 e1
  refine ⟨D, ?_⟩
  simp only [decode, encode, CONG, tD, tC, tB, tA, Int.tdiv_eq_zero_of_lt a0 a1,
    add_sub_cancel_left, Int.zero_mul, Int.sub_zero]

/-- unpacking what was packed returns the five designators, whenever each is a legal digit -/
theorem decode_encode (f : Pid) (h : f.valid = true) : decode (encode f) = f :=
  (encode_spec f h).2

/-- two different parameters never share an identifier -/
theorem encode_injective (f g : Pid) (hf : f.valid = true) (hg : g.valid = true)
    (h : encode f = encode g) : f = g := by
  rw [← decode_encode f hf, ← decode_encode g hg, h]

/-- the identifier fits a 32-bit signed integer -/
theorem encode_range (f : Pid) (h : f.valid = true) : 0 ≤ encode f ∧ encode f < 2 ^ 31 :=
  ⟨(encode_spec f h).1.1, Int.lt_trans (encode_spec f h).1.2 (by decide)⟩

/-- conversely every identifier in `[0, 50⁵)` unpacks to legal designators and packs back to itself: packing is a
bijection between the legal designators and that range -/
theorem encode_decode (p : Int) (h0 : 0 ≤ p) (h1 : p < 312500000) :
    (decode p).valid = true ∧ encode (decode p) = p := by
  have r : (0 : Int) < 50 := by decide
  obtain ⟨⟨q0, l0⟩, e⟩ := digit_decompose (m := 50 * (50 * (50 * 50))) h0 r (Int.lt_of_lt_of_le h1 (by decide))
  obtain ⟨⟨q1, l1⟩, d⟩ := digit_decompose q0 r l0
  obtain ⟨⟨q2, l2⟩, c⟩ := digit_decompose q1 r l1
  obtain ⟨⟨q3, l3⟩, b⟩ := digit_decompose q2 r l2
  have q4 := Int.tdiv_eq_zero_of_lt q3 l3
  refine ⟨(Pid.valid_iff _).2 ⟨?_, b, c, d, e⟩, ?_⟩
  · simp only [decode, CONG, q4, Int.zero_mul, Int.sub_zero]
    exact ⟨q3, l3⟩
  · simp only [encode, decode, CONG, q4]
    ring

/-- non-vacuity: a packed identifier and its designators -/
example : encode { imod := 1, icov := 2, icons := 4, ivar := 1, jvar := 0 } = 6510050 ∧
    decode 6510050 = { imod := 1, icov := 2, icons := 4, ivar := 1, jvar := 0 } := by decide +kernel

theorem cget_eq_map (items : List Item) (icase igrf icov icons iv1 iv2 : Int) :
    cget items icase igrf icov icons iv1 iv2 =
      (items.find? fun it => it.designates igrf icov icons iv1 iv2 && it.answers icase).map Item.value := by
  unfold cget
  cases List.find? _ items <;> rfl

/-- whatever is returned is the value of an item of the user's list designating that parameter and
answering that kind of request -/
theorem cget_sound (items : List Item) (icase igrf icov icons iv1 iv2 : Int) (v : Q)
    (h : cget items icase igrf icov icons iv1 iv2 = some v) :
    ∃ it ∈ items, it.designates igrf icov icons iv1 iv2 = true ∧ it.answers icase = true ∧ it.value = v := by
  rw [cget_eq_map, Option.map_eq_some_iff] at h
  obtain ⟨it, hit, hv⟩ := h
  have hp := List.find?_some hit
  rw [Bool.and_eq_true] at hp
  exact ⟨it, List.mem_of_find?_eq_some hit, hp.1, hp.2, hv⟩

/-- a constraint of the list is never lost: if some item designates the parameter and answers the
request, a value is returned -/
theorem cget_complete (items : List Item) (icase igrf icov icons iv1 iv2 : Int) (it : Item) (hm : it ∈ items)
    (hd : it.designates igrf icov icons iv1 iv2 = true) (ha : it.answers icase = true) :
    (cget items icase igrf icov icons iv1 iv2).isSome = true := by
  rw [cget_eq_map, Option.isSome_map, List.find?_isSome]
  exact ⟨it, hm, Bool.and_eq_true_iff.2 ⟨hd, ha⟩⟩

/-- an equality serves as lower and as upper bound, never as a default value -/
theorem equal_answers (it : Item) (h : it.icase = 2) :
    it.answers (-1) = true ∧ it.answers 1 = true ∧ it.answers 0 = false := by
  simp [Item.answers, h]

/-! "undefined" read as "no bound": a lower bound lives in `WithBot Q`, an upper bound in `WithTop Q` -/

theorem mergeLower_eq_max (cur new : Val) : mergeLower cur new = max (α := WithBot Q) new cur := by
  rcases cur with _ | c <;> rcases new with _ | n
  exacts [rfl, rfl, rfl, congrArg some (max_def_lt n c).symm]

theorem mergeUpper_eq_min (cur new : Val) : mergeUpper cur new = min (α := WithTop Q) cur new := by
  rcases cur with _ | c <;> rcases new with _ | n
  exacts [rfl, rfl, rfl, congrArg some (min_def_lt c n).symm]

theorem mergeLower_ge (cur new : Val) (c : Q) (h : cur = some c) : ∃ r, mergeLower cur new = some r ∧ c ≤ r := by
  rw [mergeLower_eq_max, h]
  exact WithBot.coe_le_iff.1 le_sup_right

theorem mergeLower_ge_new (cur new : Val) (n : Q) (h : new = some n) : ∃ r, mergeLower cur new = some r ∧ n ≤ r := by
  rw [mergeLower_eq_max, h]
  exact WithBot.coe_le_iff.1 le_sup_left

theorem mergeUpper_le (cur new : Val) (c : Q) (h : cur = some c) : ∃ r, mergeUpper cur new = some r ∧ r ≤ c := by
  rw [mergeUpper_eq_min, h]
  exact WithTop.le_coe_iff.1 inf_le_left

theorem mergeUpper_le_new (cur new : Val) (n : Q) (h : new = some n) : ∃ r, mergeUpper cur new = some r ∧ r ≤ n := by
  rw [mergeUpper_eq_min, h]
  exact WithTop.le_coe_iff.1 inf_le_right

/-- bounds only tighten: after the merge the bounds are those of `mergeLower` / `mergeUpper`, and the
parameter always has an initial value -/
theorem affect_bounds (d l u : Val) (s : Slot) :
    (affect d l u s).lower = mergeLower s.lower l ∧ (affect d l u s).upper = mergeUpper s.upper u ∧
    (affect d l u s).param.isSome = true :=
  ⟨rfl, rfl, rfl⟩

/-- the initial value lies inside the merged bounds — for a compatible pair of bounds `lo ≤ up` under
the side condition `0 < lo ∨ 0 ≤ up` (the branch `up / 2` of the source leaves a negative interval) -/
theorem affect_within (d l u : Val) (s : Slot) (lo up : Q)
    (hl : mergeLower s.lower l = some lo) (hu : mergeUpper s.upper u = some up) (hle : lo ≤ up)
    (hside : 0 < lo ∨ 0 ≤ up) :
    ∃ p, (affect d l u s).param = some p ∧ lo ≤ p ∧ p ≤ up := by
  simp only [affect, hl, hu, Bool.or_eq_true, decide_eq_true_eq]
  refine ⟨_, rfl, ?_⟩
  split_ifs with hout hlo
  · constructor <;> linarith
  · have hup : 0 ≤ up := hside.resolve_left hlo
    constructor <;> linarith
  · exact ⟨not_lt.1 fun h => hout (.inl h), not_lt.1 fun h => hout (.inr h)⟩

/-- the side condition cannot be dropped: an interval of negative values is left by the initial value -/
theorem affect_within_needs_side :
    ∃ p, (affect none (some (-10)) (some (-2)) { param := none, lower := none, upper := none }).param = some p ∧ ¬ (p ≤ -2) := by
  refine ⟨-1, by decide +kernel, by norm_num⟩

/-- one-sided bounds are always respected by the initial value -/
theorem affect_lower_only (d l u : Val) (s : Slot) (lo : Q)
    (hl : mergeLower s.lower l = some lo) (hu : mergeUpper s.upper u = none) :
    ∃ p, (affect d l u s).param = some p ∧ lo ≤ p := by
  simp only [affect, hl, hu]
  refine ⟨_, rfl, ?_⟩
  split_ifs with h
  exacts [le_add_of_nonneg_right zero_le_one, not_lt.1 h]

theorem affect_upper_only (d l u : Val) (s : Slot) (up : Q)
    (hl : mergeLower s.lower l = none) (hu : mergeUpper s.upper u = some up) :
    ∃ p, (affect d l u s).param = some p ∧ p ≤ up := by
  simp only [affect, hl, hu]
  refine ⟨_, rfl, ?_⟩
  split_ifs with h
  exacts [sub_le_self _ zero_le_one, not_lt.1 h]

/-- an equality constraint with a positive value on a fresh parameter fixes bounds and initial value -/
theorem equality_fixes (items : List Item) (f : Pid) (it : Item) (v : Q) (hv : 0 < v)
    (hfirst : ∀ k, items.find? (fun it => it.designates f.imod f.icov f.icons f.ivar f.jvar && it.answers k) =
      if k = -1 ∨ k = 1 then some it else none)
    (hval : it.value = v) :
    applyTo items f { param := none, lower := none, upper := none } = { param := some v, lower := some v, upper := some v } := by
  have c (k : Int) : cget items k f.imod f.icov f.icons f.ivar f.jvar = if k = -1 ∨ k = 1 then some v else none := by
    rw [cget_eq_map, hfirst, apply_ite (Option.map Item.value), Option.map_some, hval, Option.map_none]
  -- the fresh initial value `0` lies below `v` and is replaced by the midpoint `(v + v) / 2`
  simp [applyTo, c, affect, mergeLower, mergeUpper, initVal, hv]

theorem compress_defined (rows : List Row) : ∀ r ∈ compress rows, r.slot.param.isSome = true :=
  fun _ hr => (List.mem_filter.1 hr).2

theorem compress_sublist (rows : List Row) : (compress rows).Sublist rows := List.filter_sublist

theorem compress_keeps (rows : List Row) (r : Row) (hr : r ∈ rows) (hd : r.slot.param.isSome = true) :
    r ∈ compress rows := List.mem_filter.2 ⟨hr, hd⟩

end GstProofs.C17
