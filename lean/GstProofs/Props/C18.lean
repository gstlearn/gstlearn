import GstProofs.Trans.Hermite
import Mathlib.Data.Matrix.Mul
import Mathlib.Algebra.Order.Field.Basic
import Mathlib.Tactic.FieldSimp
/-!
# C18 — data transforms and their inverses compose to the identity

* change of coordinates of a rotation: applying an orthogonal matrix then its transpose returns
  the vector (any dimension) — `rotation_roundtrip`;
* factor transforms (PCA, MAF): when the back-transformation matrix is a left inverse of the
  forward one, variables → factors → variables is the identity, centring included
  (`factors_roundtrip`); with an orthonormal eigen-basis and scaling by the inverse square roots of
  the eigenvalues the factors have the identity as covariance (`factors_whitened`);
* normal scores: the rank is monotone in the value (`rank_monotone`), so any non-decreasing
  quantile function applied to it gives a non-decreasing transform;
* Hermite polynomials: orthogonality `E[He_m He_n] = n! δ_mn` under the Gaussian law for EVERY pair of
  degrees (`hermite_orthogonal`, `hermite_table_all`: the coefficient lists of the model are polynomials of
  `ℤ[X]`, the expectation is the moment functional, Stein's identity and `He_n' = n He_{n-1}` give the
  result by induction — `GstProofs/Trans/Hermite.lean`); the values computed by the three-term recurrence
  (the quantity compared with the library) are the values of these polynomials (`hermite_values`);
  the table of the degrees below 12 (`hermite_orthogonal_below_12`) is an instance.
The anamorphosis round trips (numerical inversion) are tied by correspondence only.
-/
namespace GstProofs.C18
open GstVerif GstVerif.Trans Matrix

variable {n : Type*} [Fintype n] [DecidableEq n]

/-- rotate, then rotate back -/
theorem rotation_roundtrip (R : Matrix n n ℚ) (hR : R.transpose * R = 1) (v : n → ℚ) :
    R.transpose.mulVec (R.mulVec v) = v := by
  rw [Matrix.mulVec_mulVec, hR, Matrix.one_mulVec]

/-- variables → factors → variables, with centring -/
theorem factors_roundtrip (F B : Matrix n n ℚ) (hBF : B * F = 1) (m z : n → ℚ) :
    B.mulVec (F.mulVec (z - m)) + m = z := by
  rw [Matrix.mulVec_mulVec, hBF, Matrix.one_mulVec, sub_add_cancel]

/-- factors built from an orthonormal eigen-basis `U` of `C = U Λ Uᵀ`, scaled by `S` with
`S Λ S = 1`, have the identity as covariance matrix -/
theorem factors_whitened (U L S C : Matrix n n ℚ) (hU : U.transpose * U = 1)
    (hC : C = U * L * U.transpose) (hS : S * L * S = 1) (hSt : S.transpose = S) :
    (S * U.transpose) * C * (S * U.transpose).transpose = 1 := by
  rw [hC, Matrix.transpose_mul, Matrix.transpose_transpose, hSt]
  calc S * U.transpose * (U * L * U.transpose) * (U * S)
      = S * (U.transpose * U) * L * (U.transpose * U) * S := by simp only [Matrix.mul_assoc]
    _ = S * L * S := by rw [hU, Matrix.mul_one, Matrix.mul_one]
    _ = 1 := hS

/-- the rank (number of values strictly below) is monotone -/
theorem rank_monotone (l : List Q) (a b : Q) (h : a ≤ b) : countBelow l a ≤ countBelow l b :=
  (List.monotone_filter_right l fun _ hx => decide_eq_true ((of_decide_eq_true hx).trans_le h)).length_le

section hermite
open GstProofs.Trans

/-- **orthogonality for every pair of degrees** (statement on the executable definitions of the model) -/
theorem hermite_orthogonal (m n : Nat) :
    expect (pmul (hePoly m) (hePoly n)) = if m = n then fact n else 0 := by
  rw [expect_eq, toPoly_pmul]
  exact E_H_mul m n

/-- the table is true at every size -/
theorem hermite_table_all (N : Nat) : orthoTable N = true := by
  simp only [orthoTable, List.all_eq_true, List.mem_range, beq_iff_eq]
  exact fun m _ n _ => hermite_orthogonal m n

/-- exact orthogonality of the Hermite polynomials of degree < 12 under the Gaussian law -/
theorem hermite_orthogonal_below_12 : orthoTable 12 = true := hermite_table_all 12

/-- `He_n` has norm `n!` and is centred for `n ≥ 1` -/
theorem hermite_norm (n : Nat) : expect (pmul (hePoly n) (hePoly n)) = fact n :=
  (hermite_orthogonal n n).trans (if_pos rfl)

theorem hermite_centred (n : Nat) : expect (hePoly (n + 1)) = 0 :=
  (expect_eq _).trans (E_H_succ n)

theorem heValues_eq (y : Q) : ∀ n : Nat,
    heValues y n = (List.range n).map fun k => Polynomial.eval₂ (Int.castRingHom ℚ) y (H k)
  | 0 => rfl
  | 1 => by simp [heValues, H_zero]
  | n + 2 => by
    have ih := heValues_eq y (n + 1)
    have hnew : y * (heValues y (n + 1)).getD n 0
          - n * (if n = 0 then 0 else (heValues y (n + 1)).getD (n - 1) 0)
        = Polynomial.eval₂ (Int.castRingHom ℚ) y (H (n + 1)) := by
      rw [ih]
      cases n with
      | zero => simp [H_one, H_zero]
      | succ j =>
        rw [H_rec j]
        simp [List.getD, Polynomial.eval₂_sub, Polynomial.eval₂_mul]
    rw [List.range_succ, List.map_append, ← ih, List.map_cons, List.map_nil, ← hnew, heValues]

/-- the values produced by the recurrence are the values of the polynomials `He_k` at `y` -/
theorem hermite_values (y : Q) (n : Nat) :
    (heValues y n).length = n ∧
    ∀ k, k < n → (heValues y n).getD k 0 = Polynomial.eval₂ (Int.castRingHom ℚ) y (GstProofs.Trans.H k) := by
  rw [heValues_eq]
  exact ⟨by simp, fun k hk => by simp [List.getD, hk]⟩

end hermite

/-- recurrence values agree with the coefficient form (anchor): `He_4(2) = 16 - 24 + 3` -/
example : (heValues 2 5).getD 4 0 = -5 := by decide +kernel
example : hePoly 4 = [3, 0, -6, 0, 1] := by decide +kernel

theorem extend_sub (a0 p0 a1 p1 x y : Q) :
    extend a0 p0 a1 p1 y - extend a0 p0 a1 p1 x = (p1 - a1) / (p0 - a0) * (y - x) := by
  unfold extend
  ring

/-- raw → Gaussian → raw (and conversely) is the identity on the extension zone: the two linear
extensions joining the practical bound to the absolute bound are inverse of each other -/
theorem extend_roundtrip (a0 p0 a1 p1 x : Q) (h0 : p0 ≠ a0) (h1 : p1 ≠ a1) :
    extend a1 p1 a0 p0 (extend a0 p0 a1 p1 x) = x := by
  unfold extend
  have e0 : p0 - a0 ≠ 0 := sub_ne_zero.mpr h0
  have e1 : p1 - a1 ≠ 0 := sub_ne_zero.mpr h1
  field_simp
  ring

/-- the extension joins the two bounds … -/
theorem extend_ends (a0 p0 a1 p1 : Q) (h0 : p0 ≠ a0) :
    extend a0 p0 a1 p1 a0 = a1 ∧ extend a0 p0 a1 p1 p0 = p1 := by
  unfold extend
  exact ⟨by rw [sub_self, mul_zero, zero_div, add_zero],
    by rw [mul_div_cancel_right₀ _ (sub_ne_zero.mpr h0), add_sub_cancel]⟩

/-- … and is increasing when the practical bounds are on the same side of the absolute ones -/
theorem extend_mono (a0 p0 a1 p1 x y : Q) (h0 : p0 < a0) (h1 : p1 < a1) (hxy : x ≤ y) :
    extend a0 p0 a1 p1 x ≤ extend a0 p0 a1 p1 y := by
  rw [← sub_nonneg, extend_sub]
  exact mul_nonneg (div_nonneg_of_nonpos (sub_nonpos.2 h1.le) (sub_nonpos.2 h0.le)) (sub_nonneg.2 hxy)

end GstProofs.C18
