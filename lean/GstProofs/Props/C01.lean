import GstVerif.Krig.Model
import GstProofs.LinAlg.Bridge
import GstProofs.Krig.Algebra
import GstProofs.Props.C11
/-!
# C01 — Kriging output is the solution of the documented (co)kriging system

Three layers.
1. *Index theorems* (`lhs_blocks`, `kept_spec`, `compress`): the model's full system is the block
   matrix `[Σ + diag(verr)  X ; Xᵀ 0]` in the library's equation order and its compressed form is the
   restriction to the defined (sample, variable) pairs — all sizes, all heterotopy patterns.
2. *Algebra* (`Algebra`, any field, any dimensions): block equations, uniqueness of the solution,
   dual = primal, the two variance formulas.
   Block targets: the weights and the estimate are the averages of the point-kriging ones over the
   discretisation of the block (`block_weights`, `block_estimate`).
3. *Certificates*: the driver checks on every generated configuration that the library's LHS/RHS
   equal the model's (built from an independent covariance oracle) and that its weights, dual
   vector, estimate, standard deviation and variance of the estimator satisfy the stage equations
   with a backward error ≤ 2⁻³⁰ (`checkSolve_sound` says what acceptance means).
-/
set_option linter.unusedSectionVars false

namespace GstProofs.Krig
open GstVerif GstVerif.LinAlg GstVerif.Krig GstProofs.LinAlg

theorem lhsFull_get (k : KIn) (p q : Nat) (hp : p < neq k) (hq : q < neq k) :
    (lhsFull k).get p q =
      if p < nd k ∧ q < nd k then k.C.get p q + (if p = q then verrAdd k p else 0)
      else if p < nd k then driftLhs k p (q - nd k)
      else if q < nd k then driftLhs k q (p - nd k)
      else 0 :=
  get_ofFn _ _ _ p q hp hq

/-- the full system is symmetric whenever the covariance oracle is -/
theorem lhsFull_symm (k : KIn) (hC : ∀ p q, k.C.get p q = k.C.get q p) (p q : Nat)
    (hp : p < neq k) (hq : q < neq k) : (lhsFull k).get p q = (lhsFull k).get q p := by
  rcases eq_or_ne p q with rfl | e
  · rfl
  rw [lhsFull_get k p q hp hq, lhsFull_get k q p hq hp, if_neg e, if_neg e.symm, hC q p]
  by_cases h1 : p < nd k <;> by_cases h2 : q < nd k <;> simp [h1, h2]

/-- kept equations are exactly the flagged ones, in increasing order -/
theorem kept_spec (k : KIn) (p : Nat) : p ∈ kept k ↔ (p < neq k ∧ (flags k).getD p false = true) := by
  unfold kept
  simp [List.mem_filter]

end GstProofs.Krig

namespace GstProofs.C01
open Matrix GstProofs.Krig GstVerif GstVerif.Krig GstVerif.LinAlg

variable {K : Type*} [Field K] {n p : Type*} [Fintype n] [Fintype p] [DecidableEq n] [DecidableEq p]

/-- the solution of `[Σ X; Xᵀ 0][λ; ν] = [Σ0; X0]` (Kriging.md with `ν = −μ`) is *the* vector
returned as `A⁻¹·rhs`, and it satisfies both kriging equations -/
theorem solution (S : Matrix n n K) (X : Matrix n p K) (S0 : n → K) (X0 : p → K)
    (hA : IsUnit (fromBlocks S X Xᵀ 0).det) :
    let w := (fromBlocks S X Xᵀ 0)⁻¹ *ᵥ (Sum.elim S0 X0)
    let lam := w ∘ Sum.inl
    let nu := w ∘ Sum.inr
    S *ᵥ lam + X *ᵥ nu = S0 ∧ Xᵀ *ᵥ lam = X0 := by
  intro w lam nu
  refine (block_system S X lam S0 nu X0).mp ?_
  rw [show Sum.elim lam nu = w from Sum.elim_comp_inl_inr w]
  exact mulVec_inv_mulVec hA _

theorem unique {m : Type*} [Fintype m] [DecidableEq m] (A : Matrix m m K) (w b : m → K)
    (hA : IsUnit A.det) (h : A *ᵥ w = b) : w = A⁻¹ *ᵥ b := by
  rw [← h, mulVec_mulVec, nonsing_inv_mul A hA, one_mulVec]

/-- the estimate computed in dual form equals the weighted sum of the (centred) data -/
theorem dual {m : Type*} [Fintype m] [DecidableEq m] (A : Matrix m m K) (b z : m → K) (hs : Aᵀ = A) :
    b ⬝ᵥ (A⁻¹ *ᵥ z) = (A⁻¹ *ᵥ b) ⬝ᵥ z := by
  rw [dotProduct_mulVec_eq, transpose_nonsing_inv, hs]

/-- **block kriging**: the right-hand side of a block target is the average of the point right-hand
sides over the discretisation of the block (`_rhsCalculBlock`); the weights, hence the estimate, are
then the averages of the point-kriging weights / estimates over the same discretisation -/
theorem block_weights {m : Type*} [Fintype m] [DecidableEq m] {d : Type*} [Fintype d]
    (A : Matrix m m K) (b : d → m → K) (c : K) :
    A⁻¹ *ᵥ (c • ∑ k, b k) = c • ∑ k, A⁻¹ *ᵥ b k := by
  rw [Matrix.mulVec_smul, Matrix.mulVec_sum]

theorem block_estimate {m : Type*} [Fintype m] [DecidableEq m] {d : Type*} [Fintype d]
    (A : Matrix m m K) (b : d → m → K) (z : m → K) (c : K) :
    (A⁻¹ *ᵥ (c • ∑ k, b k)) ⬝ᵥ z = c * ∑ k, (A⁻¹ *ᵥ b k) ⬝ᵥ z := by
  rw [block_weights, smul_dotProduct, sum_dotProduct, smul_eq_mul]

/-- returned variance = variance of the estimation error; `varZ` = variance of the estimator -/
theorem variance (S : Matrix n n K) (X : Matrix n p K) (lam S0 : n → K) (nu X0 : p → K) (s00 : K)
    (h1 : S *ᵥ lam + X *ᵥ nu = S0) (h2 : Xᵀ *ᵥ lam = X0) :
    s00 - (S0 ⬝ᵥ lam + X0 ⬝ᵥ nu) = s00 - 2 * (lam ⬝ᵥ S0) + lam ⬝ᵥ (S *ᵥ lam) ∧
    S0 ⬝ᵥ lam - X0 ⬝ᵥ nu = lam ⬝ᵥ (S *ᵥ lam) := by
  have e : lam ⬝ᵥ S0 = lam ⬝ᵥ (S *ᵥ lam) + X0 ⬝ᵥ nu := by
    rw [← h1, ← h2, dotProduct_add, dotProduct_mulVec_eq X]
  rw [dotProduct_comm S0 lam, e]
  constructor <;> ring

/-- index theorems of the assembled system (model = library's loops) -/
theorem lhs_blocks (k : KIn) :
    (∀ p q, p < nd k → q < nd k →
        (lhsFull k).get p q = k.C.get p q + (if p = q then verrAdd k p else 0)) ∧
    (∀ p ib, p < nd k → ib < nfeq k → (lhsFull k).get p (nd k + ib) = driftLhs k p ib ∧
        (lhsFull k).get (nd k + ib) p = driftLhs k p ib) ∧
    (∀ a b, a < nfeq k → b < nfeq k → (lhsFull k).get (nd k + a) (nd k + b) = 0) := by
  have data : ∀ {p}, p < nd k → p < neq k := fun h => Nat.lt_add_right _ h
  have drift : ∀ {a}, a < nfeq k → nd k + a < neq k := fun h => Nat.add_lt_add_left h _
  refine ⟨fun p q hp hq => ?_, fun p ib hp hb => ⟨?_, ?_⟩, fun a b ha hb => ?_⟩
  · rw [lhsFull_get k p q (data hp) (data hq), if_pos ⟨hp, hq⟩]
  · rw [lhsFull_get k p _ (data hp) (drift hb), if_neg (by omega), if_pos hp, Nat.add_sub_cancel_left]
  · rw [lhsFull_get k _ p (drift hb) (data hp), if_neg (by omega), if_neg (by omega), if_pos hp,
      Nat.add_sub_cancel_left]
  · rw [lhsFull_get k _ _ (drift ha) (drift hb), if_neg (by omega), if_neg (by omega), if_neg (by omega)]

/-- heterotopy: the compressed system is the full system restricted to the kept equations -/
theorem compress (k : KIn) (i j : Nat) (hi : i < (kept k).length) (hj : j < (kept k).length) :
    (lhsC k).get i j = (lhsFull k).get ((kept k).getD i 0) ((kept k).getD j 0) :=
  GstProofs.LinAlg.get_ofFn _ _ _ i j hi hj

theorem compress_rhs (k : KIn) (i a : Nat) (hi : i < (kept k).length) (ha : a < k.nvar) :
    (rhsC k).get i a = (rhsFull k).get ((kept k).getD i 0) a := by
  unfold rhsC Mat.sub
  rw [GstProofs.LinAlg.get_ofFn _ _ _ _ _ hi (by simpa using ha)]
  simp [List.getD, ha]

/-- what an accepted residual certificate means -/
theorem certificate (tau : Q) (A : Mat) (x b : List Q) (h : checkSolve tau A x b = true) :
    ∀ i, i < (A.mulVec x).length →
      absQ ((A.mulVec x).getD i 0 - b.getD i 0) ≤ tau * maxQ (A.maxAbs * vmaxAbs x * (A.c : Q) + vmaxAbs b) 1 :=
  GstProofs.C11.checkSolve_sound tau A x b h

end GstProofs.C01
