import GstVerif.Calc.Model
import GstProofs.Db.Inv
import GstGen.CalcTable
/-!
# C19 — A calculation either completes or leaves its data bases untouched

Model: `GstVerif/Calc/Model.lean` (calculator life cycle on top of the C07 Db model).
`rollback_restores`: whatever the number of variables a calculator has appended to a data base
(permanent or temporary, any failure point — the lists are universally quantified), deleting the
registered variables gives back the original columns, names, values and roles.
`rollbackPermOnly_leaks` is the negation for the roll-back as it was shipped (known finding F24,
repaired): temporary variables survived.
The library is tied by the fault-injection run: every tick of the guarded hook, natural failures,
and a re-run after each failure.
-/
namespace GstProofs.Calc
open GstVerif GstVerif.Db GstVerif.Calc GstProofs.Db

theorem idxOf?_append_fresh (u : Nat) (U N : List Nat) (h : u ∉ U) :
    idxOf? u (U ++ u :: N) = some U.length := by
  have hU : U.findIdx? (· == u) = none := List.idxOf?_eq_none_iff.mpr h
  simp [idxOf?_eq, List.idxOf?, List.findIdx?_cons, hU]

theorem eraseIdx_append_of_length {α} {A : List α} {k : Nat} (h : A.length = k) (B : List α) :
    (A ++ B).eraseIdx k = A ++ B.tail := by
  rw [List.eraseIdx_append_of_length_le (Nat.le_of_eq h), h, Nat.sub_self, List.eraseIdx_zero]

theorem map_erase_fresh (u : Nat) (L : List (List Nat)) (h : u ∉ L.flatten) : L.map (eraseFirst u) = L :=
  (List.map_congr_left fun l hl =>
    List.erase_of_not_mem fun hm => h (List.mem_flatten.mpr ⟨l, hl, hm⟩)).trans (List.map_id _)

/-- shape of a data base to which the columns `N` (uids), `Nn` (names), `Cn` (values) were appended -/
def appended (s : State) (U : List Nat) (Nm : List String) (C : List (List Val)) (N : List Nat)
    (Nn : List String) (Cn : List (List Val)) : Prop :=
  s.uids = U ++ N ∧ s.names = Nm ++ Nn ∧ s.cols = C ++ Cn ∧
  Nm.length = U.length ∧ C.length = U.length ∧ Nn.length = N.length ∧ Cn.length = N.length

/-- **deleting the appended columns one after the other restores the original lists**, whatever
their number: roles are untouched because the new uids hold none -/
theorem deleteAll_appended : ∀ (N : List Nat) (Nn : List String) (Cn : List (List Val)) (s : State)
    (U : List Nat) (Nm : List String) (C : List (List Val)),
    appended s U Nm C N Nn Cn → (∀ u ∈ N, u ∉ U) → N.Nodup → (∀ u ∈ N, u < s.nextUid) →
    (∀ u ∈ N, u ∉ s.loc.flatten) →
    let r := deleteAll s N
    r.uids = U ∧ r.names = Nm ∧ r.cols = C ∧ r.loc = s.loc ∧ r.nech = s.nech := by
  intro N
  induction N with
  | nil =>
    rintro Nn Cn s U Nm C ⟨h1, h2, h3, _, _, h6, h7⟩ _ _ _ _
    cases List.length_eq_zero_iff.mp h6
    cases List.length_eq_zero_iff.mp h7
    simp [deleteAll, h1, h2, h3]
  | cons u N ih =>
    rintro Nn Cn s U Nm C ⟨h1, h2, h3, h4, h5, h6, h7⟩ hf hn hlt hloc
    obtain ⟨hfu, hf⟩ := List.forall_mem_cons.mp hf
    obtain ⟨hltu, hlt⟩ := List.forall_mem_cons.mp hlt
    obtain ⟨hlocu, hloc⟩ := List.forall_mem_cons.mp hloc
    -- the first new column sits right after the original ones, in all three lists
    have hstep : deleteByUid s (u : Int) =
        { s with uids := U ++ N, names := Nm ++ Nn.tail, cols := C ++ Cn.tail } := by
      rw [deleteByUid_of_idxOf? (c := U.length) (by simpa [uidValid] using hltu)
          (by rw [Int.toNat_natCast, h1]; exact idxOf?_append_fresh u U N hfu),
        Int.toNat_natCast, map_erase_fresh u s.loc hlocu, h1, h2, h3, eraseIdx_append_of_length rfl,
        eraseIdx_append_of_length h4, eraseIdx_append_of_length h5, List.tail_cons]
    rw [deleteAll, List.foldl_cons, hstep]
    exact ih Nn.tail Cn.tail _ U Nm C
      ⟨rfl, rfl, rfl, h4, h5, by simp [h6], by simp [h7]⟩ hf hn.of_cons hlt hloc

theorem deleteAll_append (s : State) (a b : List Nat) : deleteAll (deleteAll s a) b = deleteAll s (a ++ b) := by
  simp [deleteAll, List.foldl_append]

end GstProofs.Calc

namespace GstProofs.C19
open GstVerif GstVerif.Db GstVerif.Calc GstProofs.Calc GstProofs.Db

/-- roll-back restores the data base: `c.db` is the original content `(U, Nm, C)` followed by the
variables registered in the two lists, in creation order -/
theorem rollback_restores (c : CState) (U : List Nat) (Nm : List String) (C : List (List Val))
    (Nn : List String) (Cn : List (List Val))
    (h : appended c.db U Nm C (c.permL ++ c.tempL) Nn Cn)
    (hfresh : ∀ u ∈ c.permL ++ c.tempL, u ∉ U) (hnd : (c.permL ++ c.tempL).Nodup)
    (hlt : ∀ u ∈ c.permL ++ c.tempL, u < c.db.nextUid)
    (hloc : ∀ u ∈ c.permL ++ c.tempL, u ∉ c.db.loc.flatten) :
    (rollback c).uids = U ∧ (rollback c).names = Nm ∧ (rollback c).cols = C ∧
    (rollback c).loc = c.db.loc ∧ (rollback c).nech = c.db.nech := by
  unfold rollback
  rw [deleteAll_append]
  exact deleteAll_appended _ Nn Cn c.db U Nm C h hfresh hnd hlt hloc

/-- success path: `_cleanVariableDb(2)` removes exactly the temporary variables when they were
created last -/
theorem finish_removes_temporaries (c : CState) (U : List Nat) (Nm : List String) (C : List (List Val))
    (Nn : List String) (Cn : List (List Val))
    (h : appended c.db U Nm C c.tempL Nn Cn)
    (hfresh : ∀ u ∈ c.tempL, u ∉ U) (hnd : c.tempL.Nodup)
    (hlt : ∀ u ∈ c.tempL, u < c.db.nextUid) (hloc : ∀ u ∈ c.tempL, u ∉ c.db.loc.flatten) :
    (finish c).uids = U ∧ (finish c).names = Nm ∧ (finish c).cols = C := by
  have ⟨hu, hn, hc, _⟩ := deleteAll_appended _ Nn Cn c.db U Nm C h hfresh hnd hlt hloc
  exact ⟨hu, hn, hc⟩

/-- the data base stays consistent (C07 invariant) through any roll-back -/
theorem rollback_inv (c : CState) (h : Inv c.db) : Inv (rollback c) := by
  unfold rollback deleteAll
  exact foldl_deleteByUid_inv _ _ (foldl_deleteByUid_inv _ _ h)

/-! ### the premises of `rollback_restores`, decided on the table of calculators regenerated from the source

`runner/calc2lean.py` re-reads every calculator of /repo (classes defining `_rollback`) at each run and
rewrites `GstGen/CalcTable.lean`.  The roll-back theorem assumes that the roll-back deletes the
variables of *both* lists and that every variable created by the calculator is registered in one of
them: these theorems say that the source does, for every calculator (not only those a harness calls). -/

/-- every calculator's `_rollback` cleans the variables it added to the input and to the output
data base, permanent and temporary alike (finding F24 was the negation for the temporary ones) -/
theorem calculators_clean_both_lists :
    ∀ c ∈ GstGen.calculators, c.cleansIn = true ∧ c.cleansOut = true := by decide

/-- no calculator creates a column behind the back of the roll-back lists.  Finding F97 was
`CalcAnamTransform::_preprocess`, which called `Db::addColumnsByConstant` directly (repaired); the two
calls that remain in that class are the work columns of `_uniformConditioning`, deleted before it
returns -/
theorem calculators_register_their_variables :
    ∀ c ∈ GstGen.calculators, c.directAdds = 0 ∨ (c.cls = "CalcAnamTransform" ∧ c.directAdds ≤ 2) := by decide

/-- the table is about the calculators the harness exercises (and more) -/
theorem calculators_table_covers :
    ∀ n ∈ ["CalcKriging", "CalcSimuTurningBands", "CalcSimuFFT", "CalcMigrate", "CalcStatistics", "CalcAnamTransform",
           "CalcSimpleInterpolation", "CalcGridToGrid", "CalcSimuPost"], n ∈ GstGen.calculators.map (·.cls) := by
  simp [GstGen.calculators]

/-! ### concrete instance: one permanent and one temporary variable, failure afterwards -/
def db0 : State := { grid := false, nech := 2, nextUid := 2, uids := [0, 1], names := ["x", "z"],
                     cols := [[some 1, some 2], [some 3, none]], loc := (List.replicate NLOC []).set 1 [1] }
def c2 : Option CState :=
  (addVar ⟨db0, [], []⟩ ⟨true, 1, none, "est"⟩).bind fun c => addVar c ⟨false, 2, some 0, "tmp"⟩

example : (c2.map fun c => sameContent (rollback c) db0) = some true := by decide
/-- witness of F24: cleaning the permanent list only leaves the two temporary columns behind -/
theorem rollbackPermOnly_leaks : (c2.map fun c => sameContent (rollbackPermOnly c) db0) = some false := by decide
example : (c2.map fun c => (rollbackPermOnly c).names) = some ["x", "z", "tmp-1", "tmp-2"] := by decide

end GstProofs.C19
