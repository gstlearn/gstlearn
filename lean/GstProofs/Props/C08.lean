import GstProofs.NF.Readers
/-!
# C08 — Saving and reloading an object gives back an equivalent object

Token-level model of the neutral-file record layer and of the `Db` reader/writer
(`GstVerif/NF/Model.lean`).  Proved: a record written by `_recordWrite` is read back by
`_recordRead` whatever follows it; a vector line written by `_recordWriteVec` is read back by
`_recordReadVec` after any number of pending comments; and `Db::_deserialize ∘ Db::_serialize` is the
identity on every well-formed table (all sizes), with the side condition on tokens made explicit
(`tokOK`: non-empty, no blank, not starting with `#`) — a column name violating it is *not*
reloadable (format limitation, see DESIGN.md).  Number formatting (15 significant digits) and the
other serialisable classes are tied by the correspondence run only.
-/
namespace GstProofs.C08
open GstVerif GstVerif.NF GstProofs.NF

theorem readRec_data {t : String} (ht : isComment t = false) (dflt : String) (cur : Line)
    (rest : List Line) : readRec dflt ⟨t :: cur, rest⟩ = (t, ⟨cur, rest⟩) := by
  rw [readRec_eq, skipJunk_data (isDataLine_of_notComment ht)]

theorem readRec_skip {pre : Line} {junk : List Line} {t : String} (hpre : isDataLine pre = false)
    (hj : ∀ j ∈ junk, isDataLine j = false) (ht : isComment t = false) (dflt : String) (cur : Line)
    (rest : List Line) : readRec dflt ⟨pre, junk ++ (t :: cur) :: rest⟩ = (t, ⟨cur, rest⟩) := by
  rw [readRec_eq, skipJunk_junk hpre, skipJunk_append hj (isDataLine_of_notComment ht)]

/-- a value written with its title is read back, and what follows is untouched -/
theorem rec_roundtrip (title v : String) (pre : Line) (rest : List Line) (hv : tokOK v = true)
    (hpre : ∀ t ∈ pre.head?, isComment t = true) :
    readRec "0" ⟨pre, writeRec title v :: rest⟩ = (v, ⟨"#" :: titleToks title, rest⟩) :=
  readRec_skip (junk := []) (isDataLine_eq_false_iff.mpr hpre) (by simp) (tokOK_notComment hv) ..

theorem junk_writeComment (title : String) : ∀ j ∈ [writeComment title], isDataLine j = false := by
  simp [writeComment, isDataLine_hash]

/-- comment and blank lines in front of a data line are skipped by the vector reader -/
theorem readVecLines_skip (n : Nat) : ∀ (junk : List Line) (l : Line) (rest : List Line),
    (∀ j ∈ junk, isDataLine j = false) → l ≠ [] → (∀ t ∈ l, tokOK t = true) → l.length = n →
    readVecLines n (junk ++ l :: rest) = some (l, rest) := by
  intro junk l rest hj hne hok hlen
  simp only [readVecLines_eq, skipJunk_append hj (isDataLine_of_tokOK hne hok),
    sigTokens_of_tokOK hok, hlen, if_true]

theorem readVec_skip {n : Nat} {cur l : Line} {junk : List Line} (hcur : isDataLine cur = false)
    (hj : ∀ j ∈ junk, isDataLine j = false) (hl : l.length = n ∧ ∀ t ∈ l, tokOK t = true)
    (hn : n ≠ 0) (rest : List Line) : readVec n ⟨cur, junk ++ l :: rest⟩ = some (l, ⟨[], rest⟩) := by
  rw [readVec_of_ne hn, ← List.cons_append, readVecLines_skip n (cur :: junk) l rest
    (List.forall_mem_cons.mpr ⟨hcur, hj⟩) (by rintro rfl; exact hn hl.1.symm) hl.2 hl.1]
  rfl

/-- a vector written with its title is read back after any pending comment remainder -/
theorem vec_roundtrip (title : String) (vec : Line) (cur : Line) (rest : List Line) (n : Nat)
    (hcur : isDataLine cur = false) (hne : vec ≠ []) (hok : ∀ t ∈ vec, tokOK t = true)
    (hlen : vec.length = n) (ht : title ≠ "") :
    readVec n ⟨cur, writeVec title vec ++ rest⟩ = some (vec, ⟨[], rest⟩) := by
  rw [writeVec, if_neg ht]
  exact readVec_skip hcur (junk_writeComment title) ⟨hlen, hok⟩
    (by rintro rfl; exact hne (List.length_eq_zero_iff.mp hlen)) rest

/-- an empty vector: the reader consumes nothing, and what the writer produced for it (comment
line + empty line) is junk that every later reader skips -/
theorem vec_empty_roundtrip (title : String) (s : Stream) :
    readVec 0 s = some ([], s) ∧ ∀ j ∈ writeVec title [], isDataLine j = false := by
  refine ⟨readVec_zero s, List.forall_mem_append.mpr ⟨?_, List.forall_mem_singleton.mpr rfl⟩⟩
  split
  · exact fun _ hj => nomatch hj
  · exact junk_writeComment title

/-- rows (possibly preceded by comment / blank lines) -/
theorem readRows_roundtrip (ncol : Nat) (hpos : 0 < ncol) : ∀ (rows : List Line) (cur : Line)
    (junk tail : List Line), isDataLine cur = false → (∀ j ∈ junk, isDataLine j = false) →
    (∀ r ∈ rows, r.length = ncol ∧ ∀ t ∈ r, tokOK t = true) →
    ∃ s', readRows ncol rows.length ⟨cur, junk ++ rows ++ tail⟩ = some (rows, s') := by
  intro rows
  induction rows with
  | nil => exact fun _ _ _ _ _ _ => ⟨_, rfl⟩
  | cons r rows ih =>
    intro cur junk tail hcur hjunk hr
    rw [List.forall_mem_cons] at hr
    obtain ⟨s', ih⟩ := ih [] [] tail rfl (by simp) hr.2
    rw [List.nil_append] at ih
    exact ⟨s', by simp only [List.append_assoc, List.cons_append, List.length_cons, readRows,
      readVec_skip hcur hjunk hr.1 (Nat.ne_of_gt hpos), ih, Option.map_some]⟩

theorem serDbWith_eq (ncolT nechT : String) (d : DbFile) : serDbWith ncolT nechT d =
    ["Db"] :: writeRec "Number of variables" ncolT :: writeRec "Number of samples" nechT ::
      (writeVec "Locators" d.locators ++ (writeVec "Names" d.names ++
        ([writeComment "Array of values"] ++ d.rows))) := by
  simp [serDbWith]

/-- the body of a Db (after the type tag) is read back from what `Db::_serialize` wrote -/
theorem dbBody_roundtrip (d : DbFile) (ncolT nechT : String)
    (hn : parseCInt? ncolT = some (d.ncol : Int)) (he : parseCInt? nechT = some (d.nech : Int))
    (hnt : tokOK ncolT = true) (het : tokOK nechT = true)
    (hpos : 0 < d.ncol)
    (hl : d.locators.length = d.ncol ∧ ∀ t ∈ d.locators, tokOK t = true)
    (hm : d.names.length = d.ncol ∧ ∀ t ∈ d.names, tokOK t = true)
    (hr : d.rows.length = d.nech ∧ ∀ r ∈ d.rows, r.length = d.ncol ∧ ∀ t ∈ r, tokOK t = true) :
    deserDbBody ⟨[], (serDbWith ncolT nechT d).tail⟩ = some d := by
  have hn0 : d.ncol ≠ 0 := Nat.ne_of_gt hpos
  have hne : ∀ {l : Line}, l.length = d.ncol → l ≠ [] := by rintro _ h rfl; exact hn0 h.symm
  have hnn : ¬((d.ncol : Int) < 0 ∨ (d.nech : Int) < 0) := by omega
  obtain ⟨s', hrows⟩ := readRows_roundtrip d.ncol hpos d.rows [] _ [] rfl
    (junk_writeComment "Array of values") hr.2
  rw [List.append_nil, hr.1] at hrows
  simp only [deserDbBody, serDbWith_eq, List.tail_cons,
    rec_roundtrip _ _ [] _ hnt (by simp), rec_roundtrip _ _ ("#" :: _) _ het (by simp [isComment_hash]),
    hn, he, hnn, if_false, Int.toNat_natCast, hpos, if_true,
    vec_roundtrip "Locators" _ _ _ _ (isDataLine_hash _) (hne hl.1) hl.2 hl.1 (by decide),
    vec_roundtrip "Names" _ [] _ _ rfl (hne hm.1) hm.2 hm.1 (by decide), hn0, hrows]

/-- **Db round trip**: reading what `Db::_serialize` wrote gives back the same table -/
theorem db_roundtrip (d : DbFile) (ncolT nechT : String)
    (hn : parseCInt? ncolT = some (d.ncol : Int)) (he : parseCInt? nechT = some (d.nech : Int))
    (hnt : tokOK ncolT = true) (het : tokOK nechT = true)
    (hpos : 0 < d.ncol)
    (hl : d.locators.length = d.ncol ∧ ∀ t ∈ d.locators, tokOK t = true)
    (hm : d.names.length = d.ncol ∧ ∀ t ∈ d.names, tokOK t = true)
    (hr : d.rows.length = d.nech ∧ ∀ r ∈ d.rows, r.length = d.ncol ∧ ∀ t ∈ r, tokOK t = true) :
    deserDb (serDbWith ncolT nechT d) = some d := by
  have hb := dbBody_roundtrip d ncolT nechT hn he hnt het hpos hl hm hr
  rw [serDbWith_eq] at hb ⊢
  simp only [deserDb, nextWord_eq, skipJunk_data (l := ["Db"]) (by decide +kernel), ne_eq,
    not_true_eq_false, if_false]
  exact hb

/-- last hypothesis: there is a line to read, or nothing to skip -/
theorem readDims_skip : ∀ (dims : List (String × String × String × String)) {pre : Line}
    {junk : List Line} (rest : List Line), isDataLine pre = false → (∀ j ∈ junk, isDataLine j = false) →
    (∀ q ∈ dims, tokOK q.1 = true ∧ tokOK q.2.1 = true ∧ tokOK q.2.2.1 = true ∧ tokOK q.2.2.2 = true) →
    dims ≠ [] ∨ (pre = [] ∧ junk = []) →
    readDims dims.length ⟨pre, junk ++ (dims.map dimLine ++ rest)⟩ = (dims, ⟨[], rest⟩) := by
  intro dims
  induction dims with
  | nil =>
    rintro _ _ _ _ _ _ (h | ⟨rfl, rfl⟩)
    · exact absurd rfl h
    · rfl
  | cons q qs ih =>
    intro pre junk rest hpre hj hok _
    obtain ⟨⟨ha, hb, hc, he⟩, hqs⟩ := List.forall_mem_cons.mp hok
    have ih := ih (pre := []) (junk := []) rest rfl (by simp) hqs (.inr ⟨rfl, rfl⟩)
    rw [List.nil_append] at ih
    simp only [List.length_cons, List.map_cons, List.cons_append, readDims, dimLine,
      readRec_skip hpre hj (tokOK_notComment ha), readRec_data (tokOK_notComment hb),
      readRec_data (tokOK_notComment hc), readRec_data (tokOK_notComment he), ih]

/-- reading the lines `NX X0 DX ANGLE`, whatever precedes them on the current line being a comment -/
theorem readDims_roundtrip : ∀ (dims : List (String × String × String × String)) (pre : Line) (rest : List Line),
    (∀ t ∈ pre.head?, isComment t = true) →
    (∀ q ∈ dims, tokOK q.1 = true ∧ tokOK q.2.1 = true ∧ tokOK q.2.2.1 = true ∧ tokOK q.2.2.2 = true) →
    dims ≠ [] →
    readDims dims.length ⟨pre, dims.map dimLine ++ rest⟩ = (dims, ⟨[], rest⟩) :=
  fun dims _ rest hpre hok hne =>
    readDims_skip dims (junk := []) rest (isDataLine_eq_false_iff.mpr hpre) (by simp) hok (.inl hne)

theorem serGridWith_eq (ndimT ncolT nechT : String) (g : GridFile) : serGridWith ndimT ncolT nechT g =
    ["DbGrid"] :: writeRec "Space Dimension" ndimT ::
      ([writeComment "Grid characteristics (NX,X0,DX,ANGLE)"] ++
        (g.dims.map dimLine ++ (serDbWith ncolT nechT g.db).tail)) := by
  simp [serGridWith]

/-- **DbGrid round trip**: the grid header (space dimension, one line per dimension) and the table
part written by `DbGrid::_serialize` are read back by `DbGrid::_deserialize` -/
theorem grid_roundtrip (g : GridFile) (ndimT ncolT nechT : String)
    (hd : parseCInt? ndimT = some (g.dims.length : Int)) (hdt : tokOK ndimT = true) (hdim : g.dims ≠ [])
    (hok : ∀ q ∈ g.dims, tokOK q.1 = true ∧ tokOK q.2.1 = true ∧ tokOK q.2.2.1 = true ∧ tokOK q.2.2.2 = true)
    (hnx : ∀ q ∈ g.dims, ∃ n : Int, parseCInt? q.1 = some n ∧ 0 < n)
    (hn : parseCInt? ncolT = some (g.db.ncol : Int)) (he : parseCInt? nechT = some (g.db.nech : Int))
    (hnt : tokOK ncolT = true) (het : tokOK nechT = true)
    (hpos : 0 < g.db.ncol)
    (hl : g.db.locators.length = g.db.ncol ∧ ∀ t ∈ g.db.locators, tokOK t = true)
    (hm : g.db.names.length = g.db.ncol ∧ ∀ t ∈ g.db.names, tokOK t = true)
    (hr : g.db.rows.length = g.db.nech ∧ ∀ r ∈ g.db.rows, r.length = g.db.ncol ∧ ∀ t ∈ r, tokOK t = true) :
    deserGrid (serGridWith ndimT ncolT nechT g) = some g := by
  have hnn : ¬((g.dims.length : Int) < 0) := by omega
  simp only [deserGrid, serGridWith_eq, nextWord_eq, skipJunk_data (l := ["DbGrid"]) (by decide +kernel),
    ne_eq, not_true_eq_false, if_false, rec_roundtrip _ _ [] _ hdt (by simp), hd, hnn,
    Int.toNat_natCast,
    readDims_skip g.dims _ (isDataLine_hash _) (junk_writeComment _) hok (.inl hdim),
    dbBody_roundtrip g.db ncolT nechT hn he hnt het hpos hl hm hr, Option.map_some]
  refine if_neg fun hc => ?_
  obtain ⟨q, hq, hv⟩ := List.any_eq_true.mp hc
  obtain ⟨n, hp, hn0⟩ := hnx q hq
  simp only [hp, decide_eq_true_eq] at hv
  omega

/-! non-vacuity: a 2×2 table with an undefined cell -/
def ex : DbFile := ⟨2, 2, ["x1", "z1"], ["east", "grade"], [["1", "NA"], ["2.5", "7"]]⟩
example : deserDb (serDbWith "2" "2" ex) = some ex := by decide +kernel
/-- a 2 x 1 grid holding one variable -/
def exg : GridFile := ⟨[("2", "0", "1", "0"), ("1", "0.5", "2", "30")], ⟨1, 2, ["z1"], ["grade"], [["3"], ["NA"]]⟩⟩
example : deserGrid (serGridWith "2" "1" "2" exg) = some exg := by decide +kernel
/-- a grid file announcing a non-positive number of nodes is rejected -/
example : deserGrid (serGridWith "1" "1" "2" ⟨[("0", "0", "1", "0")], ⟨1, 2, ["z1"], ["grade"], [["3"], ["NA"]]⟩⟩) = none := by
  decide +kernel
/-- a name containing a blank is split into two tokens by the tokeniser: the file is rejected -/
example : deserDb (serDbWith "2" "1" ⟨2, 1, ["x1", "z1"], ["east", "my", "var"], [["1", "2"]]⟩) = none := by decide +kernel

end GstProofs.C08
