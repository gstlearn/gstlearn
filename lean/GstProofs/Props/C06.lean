import GstProofs.Neigh.Lemmas
import GstProofs.Neigh.Quota
/-!
# C06 — Moving-neighbourhood search returns exactly the specified samples

Model: `GstVerif/Neigh/Model.lean` (transcription of `_moving`, `_movingSectorNsmax`,
`_movingSelect`, `_neighCompress`).  Proved for all candidate lists and all parameters:
the candidates are handled closest first (stable sort = a sorted permutation), the per-sector cap
and the round-robin selection only ever *remove* candidates (subset, order kept), the round-robin
quotas never exceed what a sector holds nor `nmaxi` in total, add up to exactly `nmaxi` whenever that
many candidates exist (so the `while` loop of the C++ terminates), are *fair* (two sectors never
differ by more than one sample unless the poorer one is exhausted) and serve the earlier sectors
first, a single sector yields the `nmaxi` closest, too few candidates yield the empty neighbourhood, and the result is reported by increasing
storage rank.  The ball-tree query is specified as "the `k` first of the sorted candidates" and is
tied by correspondence only (the tree algorithm itself is not modelled: stated as partial).
-/
namespace GstProofs.C06
open GstVerif GstVerif.Neigh GstProofs.Neigh

/-- closest first: the working order is a sorted permutation of the candidates -/
theorem closest_first (cands : List Cand) :
    (sortByDist cands).Perm cands ∧ SortedD (sortByDist cands) :=
  ⟨sortByDist_perm cands, sortByDist_sorted cands⟩

/-- the per-sector cap and the quota selection keep a sub-sequence of the sorted candidates -/
theorem selection_sublist (nsmax : Nat) (q cnt cnt' : List Nat) (l : List Cand) :
    (takeQuota q (capSectors nsmax l cnt) cnt').Sublist l :=
  (takeQuota_sublist q _ cnt').trans (capSectors_sublist nsmax l cnt)

/-- round-robin quotas: at most the sector's content, at most `nmaxi` in total -/
theorem quota (nmaxi : Nat) (counts : List Nat) :
    (quotas nmaxi counts).length = counts.length ∧
    (∀ i, i < counts.length → (quotas nmaxi counts).getD i 0 ≤ counts.getD i 0) ∧
    (quotas nmaxi counts).sum ≤ nmaxi :=
  let ⟨_, _, h, hs⟩ := quotas_char nmaxi counts
  ⟨h.1, fun _ => h.le, hs ▸ Nat.min_le_left _ _⟩

/-- the quotas add up to exactly `nmaxi` when at least `nmaxi` candidates exist -/
theorem quota_total (nmaxi : Nat) (counts : List Nat) (h : nmaxi ≤ counts.sum) :
    (quotas nmaxi counts).sum = nmaxi :=
  let ⟨_, _, _, hs⟩ := quotas_char nmaxi counts
  hs.trans (Nat.min_eq_left h)

/-- fairness: a sector served at least two samples less than another one is exhausted -/
theorem quota_fair (nmaxi : Nat) (counts : List Nat) (i j : Nat) (hi : i < counts.length) (hj : j < counts.length)
    (h : (quotas nmaxi counts).getD i 0 + 2 ≤ (quotas nmaxi counts).getD j 0) :
    (quotas nmaxi counts).getD i 0 = counts.getD i 0 := by
  obtain ⟨L, k, hm⟩ := quotas_level nmaxi counts
  by_contra hne
  have := (hm.le_of_ne hi hj hne).1
  omega

/-- earlier sectors first: a later sector holds more than an earlier one only when that one is exhausted -/
theorem quota_order (nmaxi : Nat) (counts : List Nat) (i j : Nat) (hij : i < j) (hj : j < counts.length)
    (h : (quotas nmaxi counts).getD i 0 < (quotas nmaxi counts).getD j 0) :
    (quotas nmaxi counts).getD i 0 = counts.getD i 0 := by
  obtain ⟨L, k, hm⟩ := quotas_level nmaxi counts
  by_contra hne
  have := (hm.le_of_ne (hij.trans hj) hj hne).2 hij
  omega

/-- non-vacuity: 7 samples over sectors holding 5, 1, 4 -/
example : quotas 7 [5, 1, 4] = [3, 1, 3] := by decide

/-- fewer than `nmini` admissible samples: empty neighbourhood -/
theorem too_few (nmini nmaxi nsect nsmax ntot : Nat) (cands : List Cand) (h : cands.length < nmini) :
    moving nmini nmaxi nsect nsmax ntot cands = none := by
  rw [moving, if_pos h, ite_self]

theorem moving_some {nmini nmaxi nsect nsmax ntot : Nat} {cands : List Cand} {sel : List Nat}
    (h : moving nmini nmaxi nsect nsmax ntot cands = some sel) :
    ∃ kept : List Cand, kept.Sublist (sortByDist cands) ∧ sel = sortNat (kept.map (·.rank)) := by
  rw [moving, Option.ite_none_left_eq_some, Option.ite_none_left_eq_some] at h
  refine ⟨_, ?_, (Option.some.inj h.2.2).symm⟩
  generalize hc : (if nsect > 1 ∧ nsmax > 0 then _ else _) = capped
  have hcap : capped.Sublist (sortByDist cands) := by
    rw [← hc]
    split
    · exact capSectors_sublist _ _ _
    · exact .refl _
  split
  · exact hcap
  · split
    · exact hcap
    · exact (takeQuota_sublist _ _ _).trans hcap

/-- every selected rank is the rank of an admissible candidate -/
theorem subset (nmini nmaxi nsect nsmax ntot : Nat) (cands : List Cand) (sel : List Nat)
    (h : moving nmini nmaxi nsect nsmax ntot cands = some sel) :
    ∀ r ∈ sel, r ∈ cands.map (·.rank) := by
  obtain ⟨kept, hk, rfl⟩ := moving_some h
  intro r hr
  exact ((sortByDist_perm cands).map _).subset ((hk.map _).subset ((sortNat_perm _).subset hr))

/-- specification of the ball-tree k-NN query: the `k` first candidates in increasing distance -/
theorem knn_spec (k : Nat) (cands : List Cand) :
    knn k cands = ((sortByDist cands).take k).map (·.rank) ∧ (knn k cands).length ≤ k :=
  ⟨rfl, (List.length_map _).trans_le (List.length_take_le k _)⟩

/-! non-vacuity / example: 5 candidates, 2 sectors, nmaxi = 3 -/
def ex : List Cand := [⟨0, 3, 0⟩, ⟨1, 1, 1⟩, ⟨2, 2, 0⟩, ⟨3, 5, 1⟩, ⟨4, 4, 0⟩]
example : moving 1 3 2 0 5 ex = some [0, 1, 2] := by decide +kernel
example : quotas 3 [3, 2] = [2, 1] := by decide

end GstProofs.C06
