import GstProofs.LinAlg.Bridge
import GstVerif.LinAlg.Driver
import Mathlib.LinearAlgebra.Matrix.NonsingularInverse
/-!
# C11 — Matrix and vector classes compute what linear algebra defines

The model (`GstVerif/LinAlg/Mat.lean`) writes every operation as its textbook entry-wise
definition; the theorems below identify these with Mathlib's `Matrix` operations (so every law of
linear algebra — associativity, `(AB)ᵀ = BᵀAᵀ`, bilinearity … — holds of the model), for **all**
shapes.  The storage classes of the library (rectangular, square, symmetric, sparse Eigen, sparse
cs) are all compared with this single model by the correspondence run; thread counts 1–16 are
swept there too (schedules are observed, not proved).
-/
namespace GstProofs.C11
open GstVerif GstVerif.LinAlg GstProofs.LinAlg

theorem op_dims (t : Bool) (A : Mat) :
    (A.op t).r = (if t then A.c else A.r) ∧ (A.op t).c = (if t then A.r else A.c) := by
  cases t <;> exact ⟨rfl, rfl⟩

/-- `prodMatMat(x, y, transposeX, transposeY)` = `op(X) · op(Y)`: the four flag combinations -/
theorem prodMatMat (m n p : Nat) (ta tb : Bool) (A B : Mat)
    (hA : (A.op ta).r = m) (hAc : (A.op ta).c = n) (hB : (B.op tb).c = p) :
    toMatrix m p ((A.op ta).mul (B.op tb)) = toMatrix m n (A.op ta) * toMatrix n p (B.op tb) :=
  toMatrix_mul m n p _ _ hA hAc hB

/-- `op(A)` read as a Mathlib matrix is `A` or its transpose -/
theorem op_transpose (m n : Nat) (A : Mat) (hr : A.r = m) (hc : A.c = n) :
    toMatrix n m (A.op true) = (toMatrix m n A).transpose ∧ toMatrix m n (A.op false) = toMatrix m n A :=
  ⟨toMatrix_transpose m n A hr hc, rfl⟩

theorem transpose_transpose (m n : Nat) (A : Mat) (hr : A.r = m) (hc : A.c = n) :
    toMatrix m n A.transpose.transpose = toMatrix m n A := by
  rw [toMatrix_transpose n m A.transpose hc hr, toMatrix_transpose m n A hr hc,
    Matrix.transpose_transpose]

/-- `prodMatVec` / `prodVecMat` -/
theorem prodMatVec (m n : Nat) (A : Mat) (x : List Q) (hr : A.r = m) (hc : A.c = n) :
    toVec m (A.mulVec x) = (toMatrix m n A).mulVec (toVec n x) := by
  subst hc
  ext i
  exact (toVec_map_range hr _ i).trans (sumRange_eq _ _)

theorem prodVecMat (m n : Nat) (A : Mat) (x : List Q) (hr : A.r = m) (hc : A.c = n) :
    toVec n (Mat.vecMul x A) = Matrix.vecMul (toVec m x) (toMatrix m n A) := by
  subst hr
  ext j
  exact (toVec_map_range hc _ j).trans (sumRange_eq _ _)

/-- `addMatInPlace(y, cx, cy)`: `cx·this + cy·y` -/
theorem linear_combination (m n : Nat) (a b : Q) (A B : Mat) (hr : A.r = m) (hc : A.c = n) :
    toMatrix m n (Mat.lin a A b B) = a • toMatrix m n A + b • toMatrix m n B :=
  toMatrix_lin m n a b A B hr hc

/-- `prodScalar` -/
theorem prodScalar (m n : Nat) (a : Q) (A : Mat) (hr : A.r = m) (hc : A.c = n) :
    toMatrix m n (Mat.smul a A) = a • toMatrix m n A :=
  Matrix.ext fun i j => toMatrix_ofFn hr hc _ i j

/-- `multiplyRow(v)` is `diag(v)·A` — the vector has one entry per **row** — and `multiplyColumn(v)`
is `A·diag(v)` (the dense overrides mapped `v` with the wrong dimension before the repair) -/
theorem row_col_scaling (m n : Nat) (A : Mat) (v w : List Q) (hr : A.r = m) (hc : A.c = n) :
    toMatrix m n (A.scaleRows v) = Matrix.diagonal (toVec m v) * toMatrix m n A ∧
    toMatrix m n (A.scaleCols w) = toMatrix m n A * Matrix.diagonal (toVec n w) := by
  constructor <;> ext i j
  · rw [Matrix.diagonal_mul, mul_comm]
    exact toMatrix_ofFn hr hc _ i j
  · rw [Matrix.mul_diagonal]
    exact toMatrix_ofFn hr hc _ i j

/-- congruence product `t(A)·M·A` -/
theorem prodNorm_transpose (m n : Nat) (A M : Mat) (hr : A.r = m) (hc : A.c = n) (hM : M.c = m) :
    toMatrix n n ((A.transpose.mul M).mul A) =
      (toMatrix m n A).transpose * toMatrix m m M * toMatrix m n A := by
  rw [toMatrix_mul n m n (A.transpose.mul M) A hc hM hc, toMatrix_mul n m m A.transpose M hc hr hM,
    toMatrix_transpose m n A hr hc]

/-- an exact inverse certificate determines the inverse: if `A·B = 1` then `B = A⁻¹` -/
theorem inverse_unique (n : Nat) (A B : Matrix (Fin n) (Fin n) ℚ) (h : A * B = 1) : A⁻¹ = B :=
  Matrix.inv_eq_right_inv h

/-- soundness of the residual checker used for `solve`, `invert`, Cholesky solves …:
acceptance means every residual component is within the stated backward-error bound -/
theorem checkSolve_sound (tau : Q) (A : Mat) (x b : List Q) (h : checkSolve tau A x b = true) :
    ∀ i, i < (A.mulVec x).length →
      absQ ((A.mulVec x).getD i 0 - b.getD i 0)
        ≤ tau * maxQ (A.maxAbs * vmaxAbs x * (A.c : Q) + vmaxAbs b) 1 := by
  intro i hi
  simp only [checkSolve, vclose, Bool.and_eq_true, beq_iff_eq, List.all_eq_true, List.mem_range,
    decide_eq_true_eq] at h
  exact h.2 i hi

/-- sorting helper: the result is a permutation of the input, in order -/
theorem sort_perm (x : List Q) (asc : Bool) : (vsort x asc).Perm x := by
  unfold vsort; split <;> exact List.mergeSort_perm _ _

/-! non-vacuity: a concrete 2×3 · 3×2 product -/
example : (Mat.mul ⟨2, 3, [[1, 2, 3], [4, 5, 6]]⟩ ⟨3, 2, [[1, 0], [0, 1], [1, 1]]⟩).e = [[4, 5], [10, 11]] := by
  decide +kernel

section Certificates
open Matrix

theorem abs_mulVec_le {n : Type*} [Fintype n] (M : Matrix n n ℚ) (r : n → ℚ) (ε : ℚ) (hr : ∀ k, |r k| ≤ ε) (i : n) :
    |(M *ᵥ r) i| ≤ (∑ k, |M i k|) * ε := by
  rw [Finset.sum_mul]
  refine le_trans (Finset.abs_sum_le_sum_abs _ _) (Finset.sum_le_sum fun k _ => ?_)
  rw [abs_mul]
  exact mul_le_mul_of_nonneg_left (hr k) (abs_nonneg _)

variable {n : Type*} [Fintype n] [DecidableEq n]

/-- **what a residual certificate of an inverse means**: if the residual `A·X − I` of the answer `X` is at most `ε` in every
entry, `X` differs from the true inverse `A⁻¹` by at most `(Σₖ |A⁻¹ᵢₖ|)·ε` in entry `(i, j)` — whatever the size -/
theorem inverse_certificate_bound (A X : Matrix n n ℚ) (hA : IsUnit A.det) (ε : ℚ)
    (hres : ∀ k j, |(A * X - 1) k j| ≤ ε) (i j : n) :
    |(X - A⁻¹) i j| ≤ (∑ k, |A⁻¹ i k|) * ε := by
  have hX : X - A⁻¹ = A⁻¹ * (A * X - 1) := by
    rw [Matrix.mul_sub, Matrix.nonsing_inv_mul_cancel_left A X hA, Matrix.mul_one]
  rw [hX]
  exact abs_mulVec_le A⁻¹ (fun k => (A * X - 1) k j) ε (fun k => hres k j) i

/-- … and of a linear solve: if `|A x − b| ≤ ε` in every component, `x` differs from the solution `A⁻¹ b` by at most
`(Σₖ |A⁻¹ᵢₖ|)·ε` in component `i` -/
theorem solve_certificate_bound (A : Matrix n n ℚ) (x b : n → ℚ) (hA : IsUnit A.det) (ε : ℚ)
    (hres : ∀ k, |(A *ᵥ x - b) k| ≤ ε) (i : n) :
    |(x - A⁻¹ *ᵥ b) i| ≤ (∑ k, |A⁻¹ i k|) * ε := by
  have hx : x - A⁻¹ *ᵥ b = A⁻¹ *ᵥ (A *ᵥ x - b) := by
    rw [Matrix.mulVec_sub, Matrix.mulVec_mulVec, Matrix.nonsing_inv_mul _ hA, Matrix.one_mulVec]
  rw [hx]
  exact abs_mulVec_le A⁻¹ _ ε hres i

/-- an exact certificate is the inverse -/
theorem inverse_certificate_exact (A X : Matrix n n ℚ) (h : A * X = 1) : X = A⁻¹ :=
  (Matrix.inv_eq_right_inv h).symm

end Certificates

end GstProofs.C11
