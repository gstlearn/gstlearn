import GstVerif.Vario.Model
import Mathlib.Tactic.Linarith
import Mathlib.Tactic.Ring
/-!
# C12 — Experimental variograms equal their pairwise definition

`GstVerif/Vario/Model.lean` holds the *definition* (`lagDef`: sums over all unordered pairs that
pass the direction test and fall in the lag) and a transcription of the pair loop of
`_calculateGeneralSolution1`.  Proved here:
* the pair loop, on samples pre-sorted by first coordinate, enumerates every unordered pair exactly
  once (its pruning test on the *signed* coordinate difference never fires);
* a pair's contribution is symmetric in the two variables and in the two samples;
* translating all coordinates changes nothing;
* the lag assigned to a pair is characterised exactly (`lag_sound`, `lag_complete`): lag `k` if and
  only if the distance lies in `[(k−½)dpas, (k+½)dpas)`, within the tolerance, `k < npas`.
The library is tied to `lagDef` by the correspondence run (pair weights exactly, values to 2⁻³⁶).
-/
namespace GstProofs.C12
open GstVerif GstVerif.Vario

def SortedX : List Sample → Prop
  | [] => True
  | a :: as => (∀ b ∈ as, a.x.headD 0 ≤ b.x.headD 0) ∧ SortedX as

theorem innerLoop_all (maxdist xi : Q) (a : Sample) (h0 : 0 ≤ maxdist) :
    ∀ bs : List Sample, (∀ b ∈ bs, xi ≤ b.x.headD 0) → innerLoop maxdist xi a bs = bs.map (fun b => (a, b))
  | [], _ => rfl
  | b :: bs, h => by
    rw [innerLoop, if_neg (not_lt.2 ((sub_nonpos.2 (h b List.mem_cons_self)).trans h0)),
      innerLoop_all maxdist xi a h0 bs fun c hc => h c (List.mem_cons_of_mem _ hc), List.map_cons]

/-- the pair loop visits each unordered pair of the (sorted) samples exactly once, in the order of
the definition: the pruning `x_i − x_j > maxdist` is dead for sorted samples -/
theorem pairs (maxdist : Q) (h0 : 0 ≤ maxdist) : ∀ l : List Sample, SortedX l → pairLoop maxdist l = pairsOf l
  | [], _ => rfl
  | a :: as, h => by
    rw [pairLoop, pairsOf, innerLoop_all maxdist _ a h0 as h.1, pairs maxdist h0 as h.2]

theorem subL_comm_sq (x y : List Q) : dotL (subL x y) (subL x y) = dotL (subL y x) (subL y x) := by
  fun_induction subL x y with
  | case1 a as b bs ih => simp only [subL, dotL, ih]; ring
  | case2 x y h => rw [subL.eq_2 y x fun b bs a as hy hx => h a as b bs hx hy]

theorem subL_translate : ∀ t x y : List Q, x.length = t.length → y.length = t.length →
    subL (List.zipWith (· + ·) x t) (List.zipWith (· + ·) y t) = subL x y
  | [], [], [], _, _ => rfl
  | c :: cs, a :: as, b :: bs, hx, hy => by
    simp only [List.zipWith_cons_cons, subL, add_sub_add_right_eq_sub,
      subL_translate cs as bs (Nat.succ.inj hx) (Nat.succ.inj hy)]

def translate (t : List Q) (s : Sample) : Sample := { s with x := List.zipWith (· + ·) s.x t }

/-- translation of all coordinates: the direction test, the lag and the contribution of every pair
are unchanged -/
theorem translate_invariant (d : Dir) (iv jv k : Nat) (t : List Q) (p1 p2 : Sample)
    (h1 : p1.x.length = t.length) (h2 : p2.x.length = t.length) :
    pairTerm d iv jv k (translate t p1, translate t p2) = pairTerm d iv jv k (p1, p2) := by
  simp only [pairTerm, keepPair, translate, usable, weightOf, subL_translate t p1.x p2.x h1 h2]

/-- symmetry in the two variables -/
theorem var_symm (d : Dir) (iv jv k : Nat) (p : Sample × Sample) :
    pairTerm d iv jv k p = pairTerm d jv iv k p := by
  obtain ⟨p1, p2⟩ := p
  simp only [pairTerm]
  -- the sides differ only in the innermost `match`
  congr 3
  funext kk
  congr 1
  cases p1.z.getD iv none <;> cases p2.z.getD iv none <;> cases p1.z.getD jv none <;>
    cases p2.z.getD jv none <;> simp only [mul_comm]

/-- tolerance window of lag `k`: `|d − k·dpas| ≤ toldis·dpas`, on squares -/
def InTol (d : Dir) (d2 : Q) (k : Nat) : Prop :=
  ((((k : Q) - d.toldis) * d.dpas ≤ 0) ∨ Vario.sq (((k : Q) - d.toldis) * d.dpas) ≤ d2) ∧
  d2 ≤ Vario.sq (((k : Q) + d.toldis) * d.dpas)

theorem lagRankGo_eq_some (d : Dir) (d2 : Q) (r fuel k0 : Nat) : lagRankGo d d2 fuel k0 = some r ↔
    (k0 ≤ r ∧ r < k0 + fuel) ∧ d2 < Vario.sq (((r : Q) + 1/2) * d.dpas) ∧
    (∀ j, k0 ≤ j → j < r → Vario.sq (((j : Q) + 1/2) * d.dpas) ≤ d2) ∧ InTol d d2 r ∧ r < d.npas := by
  constructor
  · induction fuel generalizing k0 with
    | zero => nofun
    | succ fuel ih =>
      rw [lagRankGo]
      split_ifs with hup
      · intro e
        obtain ⟨h, ⟨⟩⟩ := Option.ite_none_right_eq_some.1 e
        exact ⟨⟨le_rfl, Nat.lt_add_of_pos_right fuel.succ_pos⟩, hup, fun j h1 h2 => absurd h2 (Nat.not_lt.2 h1), h⟩
      · intro e
        obtain ⟨⟨h1, h2⟩, hr, hlow, h⟩ := ih _ e
        refine ⟨⟨Nat.le_of_succ_le h1, by omega⟩, hr, fun j hj hjr => ?_, h⟩
        rcases Nat.eq_or_lt_of_le hj with rfl | hj
        · exact not_lt.1 hup
        · exact hlow j hj hjr
  · induction fuel generalizing k0 with
    | zero => exact fun h => absurd h.1.2 (Nat.not_lt.2 h.1.1)
    | succ fuel ih =>
      rintro ⟨⟨h1, h2⟩, hr, hlow, h⟩
      rw [lagRankGo]
      rcases h1.eq_or_lt with rfl | hlt
      · rw [if_pos hr]
        -- the second test stands under `let`s, where `rw` does not find it
        exact if_pos h
      · rw [if_neg (not_lt.2 (hlow k0 le_rfl hlt))]
        exact ih _ ⟨⟨hlt, by omega⟩, hr, fun j hj => hlow j (Nat.le_of_succ_le hj), h⟩

theorem lagRank_regular_iff (d : Dir) (d2 : Q) (k : Nat) (hreg : d.breaks.length < 2) : lagRank d d2 = some k ↔
    d2 < Vario.sq (((k : Q) + 1/2) * d.dpas) ∧ (∀ j, j < k → Vario.sq (((j : Q) + 1/2) * d.dpas) ≤ d2) ∧
    InTol d d2 k ∧ k < d.npas := by
  rw [lagRank, if_pos hreg, lagRankGo_eq_some]
  constructor
  · rintro ⟨_, hup, hlow, h⟩
    exact ⟨hup, fun j => hlow j j.zero_le, h⟩
  · rintro ⟨hup, hlow, hin, hk⟩
    -- the fuel `npas + 2` suffices because `k < npas`
    exact ⟨⟨k.zero_le, by omega⟩, hup, fun j _ => hlow j, hin, hk⟩

/-- **the lag returned for a pair is the one its distance falls in**: `lagRank d² = k` only if
`(k − ½)·dpas ≤ dist < (k + ½)·dpas` (stated on squares: every nearer half-lag boundary is below
`d²`, the next one above), `|dist − k·dpas| ≤ toldis·dpas` and `k < npas` -/
theorem lag_sound (d : Dir) (d2 : Q) (k : Nat) (hreg : d.breaks.length < 2) (h : lagRank d d2 = some k) :
    d2 < Vario.sq (((k : Q) + 1/2) * d.dpas) ∧ (∀ j, j < k → Vario.sq (((j : Q) + 1/2) * d.dpas) ≤ d2) ∧
    InTol d d2 k ∧ k < d.npas :=
  (lagRank_regular_iff d d2 k hreg).1 h

/-- … and conversely every pair whose distance falls in lag `k < npas` within the tolerance is
assigned to lag `k` -/
theorem lag_complete (d : Dir) (d2 : Q) (k : Nat) (hup : d2 < Vario.sq (((k : Q) + 1/2) * d.dpas))
    (hlow : ∀ j, j < k → Vario.sq (((j : Q) + 1/2) * d.dpas) ≤ d2) (hin : InTol d d2 k) (hk : k < d.npas)
    (hreg : d.breaks.length < 2) :
    lagRank d d2 = some k :=
  (lagRank_regular_iff d d2 k hreg).2 ⟨hup, hlow, hin, hk⟩

/-! non-vacuity: three collinear samples -/
def s3 : List Sample := [⟨[0], [some 1], none, true⟩, ⟨[1], [some 3], none, true⟩, ⟨[2], [some 2], none, true⟩]
def d1 : Dir := ⟨[1], 0, none, none, 3, 1, 1/2, false, [], 0⟩
def d1o : Dir := ⟨[1], 0, none, none, 3, 1, 1/2, true, [], 0⟩
example : SortedX s3 := by simp only [SortedX, s3]; decide
example : (lagDef d1 0 0 1 s3).1 = 2 ∧ (lagDef d1 0 0 1 s3).2.1 = some (5/4) := by decide +kernel
/-- order-4 variogram of the same data: ½(2⁴ + 1⁴)/2 = 17/4 -/
example : (lagDef d1o 0 0 1 s3).2.1 = some (17/4) := by decide +kernel

/-- class `k` of a list of breaks (on squares): `breaks[k] < dist ≤ breaks[k+1]` -/
def InClass (bs : List Q) (d2 : Q) (k : Nat) : Prop :=
  ∃ b0 b1, bs[k]? = some b0 ∧ bs[k + 1]? = some b1 ∧ (b0 < 0 ∨ Vario.sq b0 < d2) ∧ (0 ≤ b1 ∧ d2 ≤ Vario.sq b1)

theorem inClass_zero {b0 b1 : Q} {rest : List Q} {d2 : Q} :
    InClass (b0 :: b1 :: rest) d2 0 ↔ (b0 < 0 ∨ Vario.sq b0 < d2) ∧ (0 ≤ b1 ∧ d2 ≤ Vario.sq b1) :=
  ⟨fun ⟨_, _, e0, e1, h⟩ => by cases e0; cases e1; exact h, fun h => ⟨b0, b1, rfl, rfl, h⟩⟩

theorem inClass_cons_succ {b : Q} {bs : List Q} {d2 : Q} {k : Nat} :
    InClass (b :: bs) d2 (k + 1) ↔ InClass bs d2 k :=
  Iff.rfl

theorem InClass.lt_length {bs : List Q} {d2 : Q} {k : Nat} (h : InClass bs d2 k) : k + 1 < bs.length :=
  let ⟨_, _, _, e1, _⟩ := h; (List.getElem?_eq_some_iff.1 e1).1

theorem lagBreaksGo_eq_some (d2 : Q) : ∀ (bs : List Q) (k0 r : Nat), lagBreaksGo bs d2 k0 = some r ↔
    ∃ i, k0 + i = r ∧ InClass bs d2 i ∧ ∀ j, j < i → ¬ InClass bs d2 j
  | [], _, _ => ⟨nofun, fun ⟨_, _, h, _⟩ => nomatch h.lt_length⟩
  | [_], _, _ => ⟨nofun, fun ⟨_, _, h, _⟩ => absurd h.lt_length (by simp)⟩
  | b0 :: b1 :: rest, k0, r => by
    rw [lagBreaksGo]
    by_cases h0 : InClass (b0 :: b1 :: rest) d2 0
    · rw [if_pos (inClass_zero.1 h0), Option.some_inj]
      constructor
      · rintro rfl
        exact ⟨0, rfl, h0, nofun⟩
      · rintro ⟨i, rfl, _, hfirst⟩
        obtain rfl : i = 0 := Nat.eq_zero_of_not_pos fun hi => hfirst 0 hi h0
        rfl
    · rw [if_neg (mt inClass_zero.2 h0), lagBreaksGo_eq_some d2 (b1 :: rest)]
      constructor
      · rintro ⟨i, rfl, hin, hfirst⟩
        exact ⟨i + 1, Nat.add_right_comm k0 i 1, inClass_cons_succ.2 hin,
          Nat.forall_lt_succ_left.2 ⟨h0, fun j hj => mt inClass_cons_succ.1 (hfirst j hj)⟩⟩
      · rintro ⟨i, rfl, hin, hfirst⟩
        cases i with
        | zero => exact absurd hin h0
        | succ i =>
          exact ⟨i, Nat.add_right_comm k0 1 i, inClass_cons_succ.1 hin,
            fun j hj => mt inClass_cons_succ.2 (hfirst (j + 1) (Nat.succ_lt_succ hj))⟩

theorem lagRank_breaks_iff (d : Dir) (d2 : Q) (k : Nat) (hirr : 2 ≤ d.breaks.length) : lagRank d d2 = some k ↔
    InClass d.breaks d2 k ∧ (∀ j, j < k → ¬ InClass d.breaks d2 j) ∧ k < d.npas := by
  simp only [lagRank, if_neg (Nat.not_lt.2 hirr), Option.filter_eq_some_iff, lagBreaksGo_eq_some, zero_add,
    exists_eq_left, decide_eq_true_eq, and_assoc]

/-- **irregular classes**: the lag returned is the first class `]breaks[k], breaks[k+1]]` holding the
distance, among the `npas` classes -/
theorem lag_breaks_sound (d : Dir) (d2 : Q) (k : Nat) (hirr : 2 ≤ d.breaks.length) (h : lagRank d d2 = some k) :
    InClass d.breaks d2 k ∧ (∀ j, j < k → ¬ InClass d.breaks d2 j) ∧ k < d.npas :=
  (lagRank_breaks_iff d d2 k hirr).1 h

/-- … and every distance lying in a class `k < npas` (and in none before it) is assigned to `k`:
no pair of the first class is lost, none outside every class is kept -/
theorem lag_breaks_complete (d : Dir) (d2 : Q) (k : Nat) (hirr : 2 ≤ d.breaks.length)
    (hin : InClass d.breaks d2 k) (hfirst : ∀ j, j < k → ¬ InClass d.breaks d2 j) (hk : k < d.npas) :
    lagRank d d2 = some k :=
  (lagRank_breaks_iff d d2 k hirr).2 ⟨hin, hfirst, hk⟩

/-- a distance below the first break (or beyond the last) belongs to no lag -/
theorem lag_breaks_outside (d : Dir) (d2 : Q) (hirr : 2 ≤ d.breaks.length)
    (hout : ∀ k, ¬ InClass d.breaks d2 k) : lagRank d d2 = none :=
  Option.eq_none_iff_forall_ne_some.2 fun k h => hout k (lag_breaks_sound d d2 k hirr h).1

/-- non-vacuity: classes ]1,2], ]2,3.5]; distances 0.5 (none), 1.5 (class 0), 3 (class 1) -/
def db : Dir := ⟨[1], 0, none, none, 2, 1, 1/2, false, [1, 2, 7/2], 0⟩
example : lagRank db (1/4) = none ∧ lagRank db (9/4) = some 0 ∧ lagRank db 9 = some 1 ∧ lagRank db 16 = none := by
  decide +kernel

theorem not_inClass_of_lt {bs : List Q} (hinc : bs.Pairwise (· < ·)) {d2 : Q} {j k : Nat}
    (hjk : j < k) (hj : InClass bs d2 j) : ¬ InClass bs d2 k := by
  -- `d² ≤ b_{j+1}² ≤ b_k² < d²`, with `0 ≤ b_{j+1}` from class `j`
  rintro ⟨_, _, f0, _, g0, _⟩
  obtain ⟨_, _, _, e1, _, hpos, h1⟩ := hj
  obtain ⟨hj1, rfl⟩ := List.getElem?_eq_some_iff.1 e1
  obtain ⟨hk0, rfl⟩ := List.getElem?_eq_some_iff.1 f0
  have hle : bs[j + 1] ≤ bs[k] := by
    rcases Nat.eq_or_lt_of_le hjk with rfl | hlt
    · rfl
    · exact (List.pairwise_iff_getElem.1 hinc _ _ hj1 hk0 hlt).le
  have hsq : Vario.sq bs[j + 1] ≤ Vario.sq bs[k] := mul_self_le_mul_self hpos hle
  exact not_le.2 (g0.resolve_left (not_lt.2 (hpos.trans hle))) (h1.trans hsq)

/-- for non-negative increasing breaks the classes are disjoint: a distance lies in at most one class, so the lag
returned (`lag_breaks_sound`) is THE class of the distance and every distance of class `k` is given lag `k` -/
theorem classes_disjoint (bs : List Q) (hpos : ∀ b ∈ bs, 0 ≤ b) (hinc : bs.Pairwise (· < ·)) (d2 : Q) (j k : Nat)
    (hj : InClass bs d2 j) (hk : InClass bs d2 k) : j = k :=
  Nat.le_antisymm (Nat.not_lt.1 fun h => not_inClass_of_lt hinc h hk hj)
    (Nat.not_lt.1 fun h => not_inClass_of_lt hinc h hj hk)

/-- **exact characterisation for irregular classes**: with non-negative increasing breaks, a pair is given lag `k`
if and only if `k < npas` and its distance lies in class `k` -/
theorem lag_breaks_iff (d : Dir) (d2 : Q) (k : Nat) (hirr : 2 ≤ d.breaks.length)
    (hpos : ∀ b ∈ d.breaks, 0 ≤ b) (hinc : d.breaks.Pairwise (· < ·)) :
    lagRank d d2 = some k ↔ (InClass d.breaks d2 k ∧ k < d.npas) :=
  (lagRank_breaks_iff d d2 k hirr).trans
    ⟨fun h => ⟨h.1, h.2.2⟩, fun h => ⟨h.1, fun _ hj hjc => not_inClass_of_lt hinc hj hjc h.1, h.2⟩⟩

end GstProofs.C12
