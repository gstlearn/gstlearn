import GstProofs.NF.Readers
/-
  C09 — loaders fail cleanly on malformed or truncated files.

  The theorems quantify over EVERY file content (any list of lines of any tokens): whatever the
  reader of the model accepts is a consistent table whose size is bounded by the size of the file,
  and the reader is a total function (Lean accepted its structural recursion: it terminates on every
  input).  Truncated files (every prefix of every valid file) are a special case.
-/
namespace GstProofs.C09
open GstVerif GstVerif.NF GstProofs.NF

/-- number of tokens of a list of lines / of a reading position -/
def total (ls : List Line) : Nat := (ls.map List.length).sum
def stotal (s : Stream) : Nat := s.cur.length + total s.rest

@[simp] theorem total_nil : total [] = 0 := rfl
@[simp] theorem total_cons (l : Line) (ls : List Line) : total (l :: ls) = l.length + total ls := by
  simp [total]

theorem total_skipJunk_le (ls : List Line) : total (skipJunk ls) ≤ total ls := by
  induction ls with
  | nil => exact Nat.le_refl _
  | cons l ls ih =>
    cases h : isDataLine l
    · rw [skipJunk_junk h, total_cons]; omega
    · rw [skipJunk_data h]; exact Nat.le_refl _

theorem sigTokens_le (l : Line) : (sigTokens l).length ≤ l.length :=
  (List.takeWhile_sublist _).length_le

/-- the vector reader returns exactly the number of values asked for — never more — taken from
the lines it consumed -/
theorem readVecLines_spec (n : Nat) : ∀ (ls : List Line) (t : Line) (r : List Line),
    readVecLines n ls = some (t, r) → t.length = n ∧ t.length + total r ≤ total ls := by
  intro ls t r h
  have hle := total_skipJunk_le ls
  rw [readVecLines_eq] at h
  split at h
  · split at h <;> cases h
    exact ⟨(‹n = 0›).symm, Nat.zero_le _⟩
  · next l _ hs =>
    rw [hs, total_cons] at hle
    split at h <;> cases h
    exact ⟨‹_›, by have := sigTokens_le l; omega⟩

theorem readVec_spec (n : Nat) (s s' : Stream) (t : Line) (h : readVec n s = some (t, s')) :
    t.length = n ∧ t.length + stotal s' ≤ stotal s := by
  by_cases hn : n = 0
  · subst hn
    cases h
    exact ⟨rfl, Nat.le_of_eq (Nat.zero_add _)⟩
  · rw [readVec_of_ne hn] at h
    obtain ⟨⟨t', r⟩, hr, he⟩ := Option.map_eq_some_iff.mp h
    cases he
    simpa [stotal] using readVecLines_spec n _ _ _ hr

/-- rows: exactly `k` rows of exactly `ncol` values, all taken from the file -/
theorem readRows_spec (ncol : Nat) : ∀ (k : Nat) (s s' : Stream) (rows : List Line),
    readRows ncol k s = some (rows, s') →
    rows.length = k ∧ (∀ r ∈ rows, r.length = ncol) ∧ k * ncol + stotal s' ≤ stotal s := by
  intro k
  induction k with
  | zero =>
    intro s s' rows h
    cases h
    exact ⟨rfl, fun _ h => (nomatch h), by omega⟩
  | succ k ih =>
    intro s s' rows h
    rw [readRows] at h
    split at h
    · cases h
    · next r s1 hv =>
      obtain ⟨⟨rs, s2⟩, hr, he⟩ := Option.map_eq_some_iff.mp h
      cases he
      have h1 := readVec_spec ncol s s1 r hv
      have h2 := ih s1 s' rs hr
      refine ⟨congrArg (· + 1) h2.1, List.forall_mem_cons.mpr ⟨h1.1, h2.2.1⟩, ?_⟩
      rw [Nat.succ_mul]
      omega

/-- consistency rules of a table read from a file (the ones `Db` maintains through its API:
one locator and one name per column, `nech` values per column) -/
def Consistent (d : DbFile) : Prop :=
  d.locators.length = d.ncol ∧ d.names.length = d.ncol ∧
  (d.ncol = 0 → d.rows = []) ∧ (0 < d.ncol → d.rows.length = d.nech) ∧ ∀ r ∈ d.rows, r.length = d.ncol

theorem nextWord_total {cur : Line} {rest : List Line} {t : String} {s : Stream}
    (h : nextWord cur rest = some (t, s)) : stotal s < cur.length + total rest := by
  have hle := total_skipJunk_le (cur :: rest)
  rw [nextWord_eq] at h
  split at h <;> cases h
  next hs =>
    rw [hs, total_cons, total_cons, List.length_cons] at hle
    simp only [stotal]
    omega

theorem readRec_total (d : String) (s : Stream) : stotal (readRec d s).2 ≤ stotal s := by
  unfold readRec
  split
  · next h => exact Nat.le_of_lt (nextWord_total h)
  · exact Nat.zero_le _

/-- the bound counts what the reader consumed: two vectors of `ncol` tokens, then `nech` rows of `ncol` -/
theorem deserDbBody_sound {s0 : Stream} {d : DbFile} (h : deserDbBody s0 = some d) :
    Consistent d ∧ d.ncol * d.nech + 2 * d.ncol ≤ stotal s0 := by
  have t1 := readRec_total "0" s0
  have t2 := readRec_total "0" (readRec "0" s0).2
  unfold deserDbBody at h
  dsimp only at h
  generalize (readRec "0" (readRec "0" s0).2).2 = s2 at h t2
  split at h
  · split at h
    · cases h
    · generalize Int.toNat _ = ncol at h
      generalize Int.toNat _ = nech at h
      by_cases h0 : ncol = 0
      · simp only [h0, Nat.lt_irrefl, if_false, if_true] at h
        cases h
        exact ⟨⟨rfl, rfl, fun _ => rfl, fun h => absurd h (Nat.lt_irrefl 0), fun _ h => (nomatch h)⟩,
          by simp⟩
      · simp only [Nat.pos_of_ne_zero h0, h0, if_true, if_false] at h
        rcases e1 : readVec ncol s2 with _ | ⟨locs, s3⟩ <;> simp only [e1, reduceCtorEq] at h
        rcases e2 : readVec ncol s3 with _ | ⟨names, s4⟩ <;> simp only [e2, reduceCtorEq] at h
        rcases e3 : readRows ncol nech s4 with _ | ⟨rows, s5⟩ <;> simp only [e3, reduceCtorEq] at h
        cases h
        have a1 := readVec_spec _ _ _ _ e1
        have a2 := readVec_spec _ _ _ _ e2
        have a3 := readRows_spec _ _ _ _ _ e3
        refine ⟨⟨a1.1, a2.1, fun h => absurd h h0, fun _ => a3.1, a3.2.1⟩, ?_⟩
        show ncol * nech + 2 * ncol ≤ stotal s0
        rw [Nat.mul_comm ncol nech]
        omega
  · cases h

/-- the body of a Db (what follows the type tag), from any reading position -/
theorem deserDbBody_consistent (s0 : Stream) (d : DbFile) (h : deserDbBody s0 = some d) :
    Consistent d ∧ d.ncol * d.nech + 2 * d.ncol ≤ stotal s0 ∨ (Consistent d ∧ d.ncol = 0) :=
  .inl (deserDbBody_sound h)

theorem deserDb_sound {file : List Line} {d : DbFile} (h : deserDb file = some d) :
    Consistent d ∧ d.ncol * d.nech + 2 * d.ncol ≤ total file := by
  unfold deserDb at h
  split at h
  · cases h
  · next first rest =>
    split at h
    · cases h
    · next tag s0 h0 =>
      split at h
      · cases h
      · have t0 := nextWord_total h0
        obtain ⟨hc, hb⟩ := deserDbBody_sound h
        exact ⟨hc, by rw [total_cons]; omega⟩

/-- **Every accepted file gives a consistent table no larger than the file.**  (all inputs) -/
theorem deserDb_consistent (file : List Line) (d : DbFile) (h : deserDb file = some d) :
    Consistent d ∧ d.ncol * d.nech + 2 * d.ncol ≤ total file ∨ (Consistent d ∧ d.ncol = 0) :=
  .inl (deserDb_sound h)

/-- the same for a grid file: the table part of every accepted DbGrid file is consistent -/
theorem deserGrid_consistent (file : List Line) (g : GridFile) (h : deserGrid file = some g) :
    Consistent g.db := by
  unfold deserGrid at h
  split at h
  · cases h
  · split at h
    · cases h
    · split at h
      · cases h
      · dsimp only at h
        split at h
        · split at h
          · cases h
          · split at h
            · cases h
            · obtain ⟨db, hb, rfl⟩ := Option.map_eq_some_iff.mp h
              exact (deserDbBody_sound hb).1
        · cases h

/-- interrupted write: every prefix (cut at any line, and inside any line at any token) of any
file is either rejected or gives a consistent table -/
theorem truncated_file (file : List Line) (k j : Nat) (d : DbFile)
    (h : deserDb (file.take k ++ [(file.getD k []).take j]) = some d) : Consistent d :=
  (deserDb_sound h).1

/-- the size bound is not vacuous: a header announcing a huge table over a short file is rejected -/
example : deserDb [["Db"], ["2", "#", "ncol"], ["1000000000", "#", "nech"], ["#", "Locators"],
    ["x1", "z1"], ["#", "Names"], ["a", "b"], ["1", "2"]] = none := by decide +kernel

example : deserDb [["Db"], ["2", "#", "ncol"], ["1", "#", "nech"], ["#", "Locators"],
    ["x1", "z1"], ["#", "Names"], ["a", "b"], ["1", "2"]]
    = some { ncol := 2, nech := 1, locators := ["x1", "z1"], names := ["a", "b"], rows := [["1", "2"]] } := by
  decide +kernel

end GstProofs.C09
