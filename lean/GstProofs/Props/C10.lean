import GstGen.CowTable
import GstVerif.Cow.Model
import GstVerif.Memo.Model
import GstProofs.Props.C13
/-!
# C10 — results depend only on the arguments, not on what was called before

* copy-on-write vectors (`VectorT`): for EVERY sequence of operations on any number of handles the
  value seen through each handle is the one of plain value semantics (`cow_refines`), hence a write
  through one handle never changes what another one shows;  a writable reference taken before a
  copy escapes this guarantee (`stale_reference_leaks`, witness);
* lazily evaluated calculators: whatever the history of updates and queries, the answer is the one
  of a fresh object holding the final inputs (`memo_fresh`); a calculator that forgets one
  invalidation is not (`memo_buggy_differs`, witness);
* random generator: once a positive seed is set the stream is a function of the seed only
  (`GstProofs.C13.det`); a non-positive seed leaves the state as it was (`seed_nonpositive_keeps`).
-/
namespace GstProofs.C10
open GstVerif

section Cow
open GstVerif.Cow

/-- invariant: every handle points inside the heap -/
def Wf (s : St) : Prop := ∀ h, h < s.hnd.length → s.hnd.getD h 0 < s.heap.length

theorem getD_set_self {α} {l : List α} {i : Nat} (h : i < l.length) (a d : α) : (l.set i a).getD i d = a := by
  rw [List.getD_eq_getElem?_getD, List.getElem?_set_self h, Option.getD_some]

theorem getD_set_ne {α} {l : List α} {i j : Nat} (h : i ≠ j) (a d : α) : (l.set i a).getD j d = l.getD j d := by
  rw [List.getD_eq_getElem?_getD, List.getElem?_set_ne h, List.getD_eq_getElem?_getD]

theorem getD_append_left {α} {l : List α} {i : Nat} (h : i < l.length) (l' : List α) (d : α) :
    (l ++ l').getD i d = l.getD i d := by
  rw [List.getD_eq_getElem?_getD, List.getElem?_append_left h, List.getD_eq_getElem?_getD]

theorem getD_concat_length {α} (l : List α) (x d : α) : (l ++ [x]).getD l.length d = x := by
  rw [List.getD_eq_getElem?_getD, List.getElem?_concat_length, Option.getD_some]

theorem map_getD_range {α} (l : List α) (d : α) : (List.range l.length).map (l.getD · d) = l := by
  refine List.ext_getElem (by rw [List.length_map, List.length_range]) fun i h h' => ?_
  rw [List.getElem_map, List.getElem_range, ← List.getElem_eq_getD]

theorem abs_eq_map (s : St) : Cow.abs s = s.hnd.map (s.heap.getD · []) := by
  conv => rhs; rw [← map_getD_range s.hnd 0, List.map_map]
  rfl

theorem abs_length (s : St) : (Cow.abs s).length = s.hnd.length := by
  rw [Cow.abs, List.length_map, List.length_range]

theorem abs_getD (s : St) (h : Nat) (hh : h < s.hnd.length) : (Cow.abs s).getD h [] = bufOf s h := by
  rw [Cow.abs, List.getD_eq_getElem?_getD, List.getElem?_map, List.getElem?_range hh]
  rfl

theorem abs_ext (s : St) (vals : List Buf) (hl : vals.length = s.hnd.length)
    (hv : ∀ h, h < s.hnd.length → vals.getD h [] = bufOf s h) : Cow.abs s = vals := by
  rw [← map_getD_range vals [], hl]
  exact List.map_congr_left fun g hg => (hv g (List.mem_range.1 hg)).symm

theorem wf_iff (s : St) : Wf s ↔ ∀ b ∈ s.hnd, b < s.heap.length := by
  rw [List.forall_mem_iff_forall_getElem]
  exact forall₂_congr fun h hh => by rw [List.getElem_eq_getD 0]

theorem wf_set (s : St) (h b : Nat) (hw : Wf s) (hb : b < s.heap.length) : Wf { s with hnd := s.hnd.set h b } :=
  (wf_iff _).2 fun c hc => (List.mem_or_eq_of_mem_set hc).elim ((wf_iff s).1 hw c) (· ▸ hb)

theorem wf_concat (s : St) (b : Nat) (hw : Wf s) (hb : b < s.heap.length) : Wf { s with hnd := s.hnd ++ [b] } :=
  (wf_iff _).2 fun c hc => (List.mem_append.1 hc).elim ((wf_iff s).1 hw c) (List.mem_singleton.1 · ▸ hb)

theorem wf_alloc (s : St) (x : Buf) (hnd' : List Nat) (hw : Wf s)
    (h : ∀ b ∈ hnd', b ∈ s.hnd ∨ b = s.heap.length) : Wf ⟨s.heap ++ [x], hnd'⟩ :=
  (wf_iff _).2 fun b hb => by
    rw [List.length_append, List.length_singleton]
    rcases h b hb with hb | rfl
    · exact Nat.lt_succ_of_lt ((wf_iff s).1 hw b hb)
    · exact Nat.lt_succ_self _

theorem not_shared (s : St) (h : Nat) : shared s h = false ↔
    ∀ g, g < s.hnd.length → g ≠ h → s.hnd.getD g 0 ≠ s.hnd.getD h 0 := by
  simp only [shared, List.any_eq_false, List.mem_range, Bool.and_eq_true, bne_iff_ne, beq_iff_eq, not_and]

theorem detach_of_not_shared (s : St) (h : Nat) (hc : shared s h = false) : detach s h = s := by
  rw [detach, hc]; rfl

theorem detach_of_shared (s : St) (h : Nat) (hc : shared s h = true) :
    detach s h = ⟨s.heap ++ [bufOf s h], s.hnd.set h s.heap.length⟩ := by
  rw [detach, hc]; rfl

/-- after `detach`, `h` is the only user of its buffer and every handle shows the same value -/
theorem detach_spec (s : St) (h : Nat) (hw : Wf s) (hh : h < s.hnd.length) :
    Wf (detach s h) ∧ (detach s h).hnd.length = s.hnd.length ∧
    (∀ g, g < s.hnd.length → bufOf (detach s h) g = bufOf s g) ∧
    (∀ g, g < s.hnd.length → g ≠ h → (detach s h).hnd.getD g 0 ≠ (detach s h).hnd.getD h 0) := by
  cases hc : shared s h
  · rw [detach_of_not_shared s h hc]
    exact ⟨hw, rfl, fun _ _ => rfl, (not_shared s h).1 hc⟩
  · rw [detach_of_shared s h hc]
    refine ⟨wf_alloc s _ _ hw fun b => List.mem_or_eq_of_mem_set, List.length_set, fun g hg => ?_,
      fun g hg e => ?_⟩
    · unfold bufOf
      by_cases e : g = h
      · rw [e, getD_set_self hh, getD_concat_length]
      · rw [getD_set_ne (Ne.symm e), getD_append_left (hw g hg)]
    · rw [getD_set_self hh, getD_set_ne (Ne.symm e)]
      exact Nat.ne_of_lt (hw g hg)

theorem detach_abs (s : St) (h : Nat) (hw : Wf s) (hh : h < s.hnd.length) :
    Cow.abs (detach s h) = Cow.abs s := by
  obtain ⟨-, l, v, -⟩ := detach_spec s h hw hh
  rw [Cow.abs, Cow.abs, l]
  exact List.map_congr_left fun g hg => v g (List.mem_range.1 hg)

theorem write_private (s : St) (h : Nat) (x : Buf) (hw : Wf s) (hh : h < s.hnd.length)
    (hp : ∀ g, g < s.hnd.length → g ≠ h → s.hnd.getD g 0 ≠ s.hnd.getD h 0) :
    Wf { s with heap := s.heap.set (s.hnd.getD h 0) x } ∧
    Cow.abs { s with heap := s.heap.set (s.hnd.getD h 0) x } = (Cow.abs s).set h x := by
  refine ⟨fun g hg => Nat.lt_of_lt_of_eq (hw g hg) List.length_set.symm,
    abs_ext _ _ (List.length_set.trans (abs_length s)) fun g hg => ?_⟩
  unfold bufOf
  by_cases e : g = h
  · rw [e, getD_set_self ((abs_length s).symm ▸ hh), getD_set_self (hw h hh)]
  · rw [getD_set_ne (Ne.symm e), getD_set_ne (hp g hg e).symm, abs_getD s g hg]
    rfl

theorem setBuf_refines (s : St) (h : Nat) (f : Buf → Buf) (hw : Wf s) (hh : h < s.hnd.length) :
    Wf (setBuf s h f) ∧ Cow.abs (setBuf s h f) = (Cow.abs s).set h (f ((Cow.abs s).getD h [])) := by
  obtain ⟨w, l, -, p⟩ := detach_spec s h hw hh
  rw [← detach_abs s h hw hh, abs_getD _ h (l ▸ hh)]
  exact write_private _ h _ w (l ▸ hh) (l ▸ p)

/-- one step commutes with the abstraction and keeps the invariant -/
theorem step_refines (s : St) (op : Cow.Op) (hw : Wf s) :
    Wf (step s op) ∧ Cow.abs (step s op) = stepSpec (Cow.abs s) op := by
  have guard {p : Prop} [Decidable p] {t : St} {v : List Buf} (h : p → Wf t ∧ Cow.abs t = v) :
      Wf (if p then t else s) ∧ Cow.abs (if p then t else s) = if p then v else Cow.abs s := by
    split
    · exact h ‹_›
    · exact ⟨hw, rfl⟩
  cases op <;> simp only [step, stepSpec, abs_length]
  case upd h _ | set h _ _ | push h _ | resize h _ => exact guard (setBuf_refines s h _ hw)
  case new v =>
    refine ⟨wf_alloc s v _ hw fun b hb => (List.mem_append.1 hb).imp_right List.mem_singleton.1, ?_⟩
    rw [abs_eq_map, abs_eq_map, List.map_append, List.map_singleton, getD_concat_length]
    exact congrArg (· ++ [v]) (List.map_congr_left fun b hb => getD_append_left ((wf_iff s).1 hw b hb) _ _)
  case copy h =>
    refine guard fun hh => ⟨wf_concat s _ hw (hw h hh), ?_⟩
    rw [abs_eq_map, List.map_append, ← abs_eq_map s, abs_getD s h hh]; rfl
  case assign h g =>
    refine guard fun ⟨hh, hg⟩ => ⟨wf_set s h _ hw (hw g hg), ?_⟩
    rw [abs_eq_map, List.map_set, ← abs_eq_map s, abs_getD s g hg]; rfl
  case swap h g =>
    refine guard fun ⟨hh, hg⟩ => ⟨wf_set _ g _ (wf_set s h _ hw (hw g hg)) (hw h hh), ?_⟩
    rw [abs_eq_map, List.map_set, List.map_set, ← abs_eq_map s, abs_getD s g hg, abs_getD s h hh]; rfl

theorem run_refines_from (ops : List Cow.Op) (s : St) (hw : Wf s) :
    Wf (ops.foldl step s) ∧ Cow.abs (ops.foldl step s) = ops.foldl stepSpec (Cow.abs s) := by
  induction ops generalizing s with
  | nil => exact ⟨hw, rfl⟩
  | cons op ops ih =>
    obtain ⟨w, a⟩ := step_refines s op hw
    rw [List.foldl_cons, List.foldl_cons, ← a]
    exact ih _ w

/-- **Copy-on-write vectors behave as values**: after any sequence of constructions, copies,
assignments, writes, appends, resizes and swaps on any number of handles, what each handle shows
is what plain value semantics gives. -/
theorem cow_refines (ops : List Cow.Op) : Cow.abs (run ops) = runSpec ops :=
  (run_refines_from ops Cow.init fun _ h => absurd h (Nat.not_lt_zero _)).2

/-! ### the premise of `cow_refines`, decided on the table regenerated from the header at every run

`runner/cow2lean.py` re-reads `include/Basic/VectorT.hpp` / `VectorNumT.hpp` of /repo and rewrites
`GstGen/CowTable.lean`: one row per member function definition.  The model's mutators detach before
they write (`Cow.step`); these theorems say that the *source* does: they are re-elaborated against
what the headers contain today, for every member, not for the members a test happens to call. -/

/-- every member that reaches the shared buffer through a non-const path calls `_detach()` before
its first access (`_detach` itself is the exception: it is the copy) -/
theorem vectorT_writers_detach :
    ∀ m ∈ GstGen.cowMethods, m.writes = true → m.detaches = true ∨ m.name = "_detach" := by decide +kernel

/-- no `const` member writes -/
theorem vectorT_const_members_read_only :
    ∀ m ∈ GstGen.cowMethods, m.isConst = true → m.writes = false := by decide +kernel

/-- the only `const` members handing out mutable access to the shared buffer are the two recorded
in known finding F73 (`getVector`, `getVectorPtr`): a new escape hatch breaks this theorem -/
theorem vectorT_escapes_known :
    (GstGen.cowMethods.filter (·.escapes)).map (·.name) = ["getVector", "getVectorPtr"] := by decide +kernel

/-- the derived numeric vector never names the buffer in a mutator: it goes through the accessors
of `VectorT`, which detach -/
theorem vectorNumT_mutators_use_accessors :
    ∀ m ∈ GstGen.cowMethods, m.cls = "VectorNumT" → m.isConst = false → m.writes = false := by decide +kernel

/-- the table is not empty and holds the members the model is about -/
theorem vectorT_table_covers_model :
    ∀ n ∈ ["operator=", "operator[]", "setAt", "push_back", "resize", "swap", "fill", "clear", "assign"],
      n ∈ GstGen.cowMethods.map (·.name) := by decide +kernel

/-- witness: a writable reference taken on `v[0]` *before* `w = v` is copied, used after it,
changes `w` as well — the escape hatch of every copy-on-write container (`T& operator[]`,
`data()`, `getVector()` of VectorT) -/
theorem stale_reference_leaks :
    let s := run [.new [1, 2, 3], .copy 0]          -- v = {1,2,3}; w = v   (shared buffer 0)
    bufOf (writeThroughRef s 0 0 9) 1 = [9, 2, 3] := by decide +kernel

example : Cow.abs (run [.new [1, 2, 3], .copy 0, .set 0 0 9, .push 1 4]) = [[9, 2, 3], [1, 2, 3, 4]] := by
  decide +kernel

end Cow

section Memo
open GstVerif.Memo
variable {A B RA RAB : Type} (fa : A → RA) (fab : RA → B → RAB)

/-- invariant: what is cached is what would be computed from the current inputs -/
def Coherent (o : Obj A B RA RAB) : Prop :=
  (∀ r, o.ca = some r → r = fa o.a) ∧ (∀ r, o.cab = some r → r = fab (fa o.a) o.b)

theorem getD_eq_self_iff {α} {x : Option α} {d : α} : x.getD d = d ↔ ∀ r, x = some r → r = d := by
  cases x <;> simp

/-- `step` and `answerAB` read a cache with the recomputation as default: on a coherent object
that reading is the recomputation -/
theorem coherent_iff (o : Obj A B RA RAB) : Coherent fa fab o ↔
    o.ca.getD (fa o.a) = fa o.a ∧ o.cab.getD (fab (fa o.a) o.b) = fab (fa o.a) o.b := by
  rw [getD_eq_self_iff, getD_eq_self_iff]; rfl

theorem step_coherent (o : Obj A B RA RAB) (op : Memo.Op A B) (h : Coherent fa fab o) :
    Coherent fa fab (Memo.step fa fab o op) := by
  rw [coherent_iff] at h ⊢
  cases op with
  | setA x => exact ⟨rfl, rfl⟩
  | setB y => exact ⟨h.1, rfl⟩
  | getA => exact h
  | getAB => exact ⟨h.1, (congrArg (fun ra => o.cab.getD (fab ra o.b)) h.1).trans h.2⟩

/-- the inputs held after a history -/
def finalA (a0 : A) : List (Memo.Op A B) → A
  | [] => a0
  | .setA x :: ops => finalA x ops
  | _ :: ops => finalA a0 ops
def finalB (b0 : B) : List (Memo.Op A B) → B
  | [] => b0
  | .setB y :: ops => finalB y ops
  | _ :: ops => finalB b0 ops

/-- **An object updated incrementally answers as a fresh one**: after any history of updates and
queries starting from a coherent object, the answer is the function of the final inputs. -/
theorem memo_fresh (ops : List (Memo.Op A B)) (o : Obj A B RA RAB) (h : Coherent fa fab o) :
    answerAB fa fab (ops.foldl (Memo.step fa fab) o) = fab (fa (finalA o.a ops)) (finalB o.b ops) := by
  induction ops generalizing o with
  | nil =>
    rw [coherent_iff] at h
    rw [List.foldl_nil, answerAB, h.1, h.2]; rfl
  | cons op ops ih =>
    rw [List.foldl_cons, ih _ (step_coherent fa fab o op h)]
    cases op <;> rfl

/-- witness: forgetting one invalidation makes the answer depend on the history -/
theorem memo_buggy_differs :
    let fa : Nat → Nat := fun a => a * 10
    let fab : Nat → Nat → Nat := fun r b => r + b
    let o : Obj Nat Nat Nat Nat := ⟨1, 2, none, none⟩
    answerAB fa fab ([Memo.Op.getAB, .setA 5].foldl (stepBuggy fa fab) o) = 12 ∧
    fab (fa 5) 2 = 52 := by decide

end Memo

/-- a non-positive seed leaves the generator where it was: what follows depends on the history -/
theorem seed_nonpositive_keeps (state : Nat) (seed : Int) (h : seed ≤ 0) :
    GstVerif.Rng.setSeed state seed = state :=
  if_neg (Int.not_lt.mpr h)

end GstProofs.C10
