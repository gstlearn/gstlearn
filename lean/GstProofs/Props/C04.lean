import GstProofs.Props.C01
import GstProofs.Props.C06
import Mathlib.Algebra.BigOperators.Field
/-!
# C04 — accelerated code paths give the same answers as the plain ones

For each pair of paths compared on the library by `harness/vh_c04.cpp`, the reason why the two
answers must coincide is a theorem about the models:

* unique neighbourhood = moving neighbourhood holding every sample: the moving selection of the
  model returns *all* candidates when no limit binds (`wide_moving_all`), and the kriging system is
  a function of the selected set only (C01);
* cross-validation in unique neighbourhood = explicit leave-one-out: the weights and the estimate
  obtained from one column of the inverse of the complete system solve the system deprived of the
  target sample (`loo_weights`, `loo_estimate`) — for every size, every symmetric or non symmetric
  system;
* dual form = primal form (`GstProofs.C01.dual`);
* block kriging with one discretisation point = point kriging: the block average of any function
  over a one-point discretisation is the function at that point (`blockAverage_single`);
* the algebraic calculator (`KrigingCalcul`): the universal-kriging weights obtained from the
  simple-kriging ones through the Schur complement `XᵀΣ⁻¹X` solve the bordered system (`uk_from_sk`);
* the ball-tree query is specified as the `k` first sorted candidates (`GstProofs.C06.knn_spec`).

The optimised covariance matrices and the ball tree itself are tied by correspondence only.
-/
namespace GstProofs.C04
open GstVerif GstVerif.Neigh GstProofs.Neigh

/-- **A moving neighbourhood in which no limit binds selects every candidate**: without angular
sectors, with at least `nmini` candidates and fewer candidates than `nmaxi` (or no maximum), the
selection is a permutation of all the candidate ranks — the set a unique neighbourhood uses. -/
theorem wide_moving_all (nmini nmaxi nsect nsmax ntot : Nat) (cands : List Cand)
    (hsect : nsect ≤ 1) (hmin : nmini ≤ cands.length) (htot : nmini ≤ ntot)
    (hmax : nmaxi = 0 ∨ cands.length < nmaxi) :
    ∃ sel, moving nmini nmaxi nsect nsmax ntot cands = some sel ∧ sel.Perm (cands.map (·.rank)) := by
  have hlen : (sortByDist cands).length = cands.length := (sortByDist_perm cands).length_eq
  have hk : ∀ tq : List Cand, (if nmaxi = 0 then sortByDist cands
      else if (sortByDist cands).length < nmaxi then sortByDist cands else tq) = sortByDist cands := by
    intro tq
    rcases hmax with h | h
    · rw [if_pos h]
    · rw [if_neg (by omega), if_pos (by omega)]
  unfold moving
  simp only [show ¬ ntot < nmini by omega, show ¬ cands.length < nmini by omega,
    show ¬ (nsect > 1 ∧ nsmax > 0) by omega, if_false, hk]
  exact ⟨_, rfl, (sortNat_perm _).trans ((sortByDist_perm cands).map _)⟩

/-- non-vacuity: 3 candidates, nmaxi = 10 -/
example : moving 1 10 1 0 5 [⟨4, 3, 0⟩, ⟨0, 1, 0⟩, ⟨2, 2, 0⟩] = some [0, 2, 4] := by decide +kernel

section LeaveOneOut
variable {K : Type*} [Field K] {n : ℕ}

/-- the leave-one-out estimate is `z_i - (b·z) / b_i` -/
theorem loo_estimate (b z : Fin n → K) (i : Fin n) (hbi : b i ≠ 0) :
    ∑ k ∈ Finset.univ.erase i, (-(b k) / b i) * z k = z i - (∑ k, b k * z k) / b i := by
  rw [← Finset.add_sum_erase Finset.univ (fun k => b k * z k) (Finset.mem_univ i), add_div,
    mul_div_cancel_left₀ _ hbi, sub_add_cancel_left, Finset.sum_div, ← Finset.sum_neg_distrib]
  exact Finset.sum_congr rfl fun k _ => by ring

/-- **Leave-one-out weights from one column of the inverse** (any size): if `b` is the `i`-th
column of the inverse of `A` (`A b = e_i`) and `b i ≠ 0`, then `λ_k = -b_k / b_i` (k ≠ i) solves the
system deprived of sample `i`:  `Σ_{k≠i} A_{jk} λ_k = A_{ji}` for every remaining row `j`. -/
theorem loo_weights (A : Matrix (Fin n) (Fin n) K) (b : Fin n → K) (i : Fin n)
    (hb : ∀ j, ∑ k, A j k * b k = if j = i then 1 else 0) (hbi : b i ≠ 0) :
    ∀ j, j ≠ i → ∑ k ∈ Finset.univ.erase i, A j k * (-(b k) / b i) = A j i := by
  intro j hj
  -- the leave-one-out estimate of the data `z = A j ·`, for which `b·z = (A b) j = 0`
  have h := loo_estimate b (A j) i hbi
  simp only [mul_comm _ (A j _)] at h
  rw [h, hb j, if_neg hj, zero_div, sub_zero]

end LeaveOneOut

/-- non-vacuity of the leave-one-out statement: a 2×2 system -/
example : ∑ k ∈ (Finset.univ : Finset (Fin 2)).erase 0,
    (!![(2 : ℚ), 1; 1, 2]) 1 k * (-((![(2 : ℚ) / 3, -1 / 3] : Fin 2 → ℚ) k) / (2 / 3)) = 1 := by
  rw [show (Finset.univ : Finset (Fin 2)).erase 0 = {1} from rfl, Finset.sum_singleton]
  norm_num

/-- average of a function over a discretisation (list of points) -/
def blockAverage {P : Type} (f : P → Q) (disc : List P) : Q :=
  (disc.map f).sum / (disc.length : Q)

/-- a one-point discretisation reduces a block to its point -/
theorem blockAverage_single {P : Type} (f : P → Q) (p : P) : blockAverage f [p] = f p := by
  simp [blockAverage]

section Calculator
open Matrix
variable {K : Type*} [Field K] {m p : Type*} [Fintype m] [Fintype p] [DecidableEq m] [DecidableEq p]

/-- with `λ₀ = Σ⁻¹Σ₀`, `S = XᵀΣ⁻¹X`, `μ = S⁻¹(Xᵀλ₀ − X₀)` and `λ = λ₀ − Σ⁻¹Xμ`, the pair `(λ, μ)`
satisfies both kriging equations `Σλ + Xμ = Σ₀` and `Xᵀλ = X₀` -/
theorem uk_from_sk (Sg : Matrix m m K) (X : Matrix m p K) (S0 : m → K) (X0 : p → K)
    (hS : IsUnit Sg.det) (hQ : IsUnit (Xᵀ * Sg⁻¹ * X).det) :
    let lam0 := Sg⁻¹ *ᵥ S0
    let mu := (Xᵀ * Sg⁻¹ * X)⁻¹ *ᵥ (Xᵀ *ᵥ lam0 - X0)
    let lam := lam0 - Sg⁻¹ *ᵥ (X *ᵥ mu)
    Sg *ᵥ lam + X *ᵥ mu = S0 ∧ Xᵀ *ᵥ lam = X0 := by
  intro lam0 mu lam
  have hmu : (0 - Xᵀ * Sg⁻¹ * X) *ᵥ mu = X0 - Xᵀ *ᵥ (Sg⁻¹ *ᵥ S0) := by
    rw [zero_sub, neg_mulVec, Krig.mulVec_inv_mulVec hQ, neg_sub]
  have h := Krig.schur_solve Sg X Xᵀ 0 S0 X0 mu hS hmu
  rwa [mulVec_sub, zero_mulVec, add_zero] at h

/-- **Bayesian form of the calculator** (Gaussian prior `N(μ, S)` on the drift coefficients).  The calculator works
with the posterior precision `P = XᵀΣ⁻¹X + S⁻¹`: the weights of the data in its estimate are
`w = Σ⁻¹Σ₀ + Σ⁻¹X P⁻¹ d` and the weights of the prior mean are `c = S⁻¹P⁻¹ d`, with `d = X₀ − XᵀΣ⁻¹Σ₀`.
These are exactly the simple-kriging weights under the covariance `Σ + X S Xᵀ` (right-hand side
`Σ₀ + X S X₀`), and the prior mean receives what is left of the drift at the target: `c = X₀ − Xᵀw` -/
theorem bayes_weights (Sg : Matrix m m K) (X : Matrix m p K) (S : Matrix p p K) (s0 : m → K) (x0 : p → K)
    (hS : IsUnit Sg.det) (hP : IsUnit S.det) (hQ : IsUnit (Xᵀ * Sg⁻¹ * X + S⁻¹).det) :
    let P := Xᵀ * Sg⁻¹ * X + S⁻¹
    let d := x0 - Xᵀ *ᵥ (Sg⁻¹ *ᵥ s0)
    let w := Sg⁻¹ *ᵥ s0 + Sg⁻¹ *ᵥ (X *ᵥ (P⁻¹ *ᵥ d))
    let c := S⁻¹ *ᵥ (P⁻¹ *ᵥ d)
    (Sg + X * S * Xᵀ) *ᵥ w = s0 + X *ᵥ (S *ᵥ x0) ∧ c = x0 - Xᵀ *ᵥ w := by
  intro P d w c
  -- `(w, u)`, `u = P⁻¹d`, solves `Σw − Xu = σ₀`, `Xᵀw + S⁻¹u = x₀`: the Schur complement of `Σ` there is `P`
  have hu : (S⁻¹ - Xᵀ * Sg⁻¹ * -X) *ᵥ (P⁻¹ *ᵥ d) = x0 - Xᵀ *ᵥ (Sg⁻¹ *ᵥ s0) := by
    rw [Matrix.mul_neg, sub_neg_eq_add, add_comm]
    exact Krig.mulVec_inv_mulVec hQ d
  obtain ⟨h1, h2⟩ := Krig.schur_solve Sg (-X) Xᵀ S⁻¹ s0 x0 (P⁻¹ *ᵥ d) hS hu
  have hw : Sg⁻¹ *ᵥ (s0 - -X *ᵥ (P⁻¹ *ᵥ d)) = w := by rw [neg_mulVec, sub_neg_eq_add, mulVec_add]
  rw [hw] at h1 h2
  refine ⟨?_, eq_sub_of_add_eq' h2⟩
  -- eliminating `u = S (x₀ − Xᵀw)` instead leaves the system of `Σ + X S Xᵀ` for `w`
  rw [add_mulVec, ← mulVec_mulVec, ← mulVec_mulVec, eq_sub_of_add_eq h2, mulVec_sub,
    Krig.mulVec_inv_mulVec hP, mulVec_sub, ← h1, neg_mulVec]
  abel

omit [DecidableEq m] [DecidableEq p] in
/-- … hence the Bayesian estimate `wᵀz + cᵀμ` is the prior drift at the target plus the simple kriging of the
residuals `z − Xμ` with those weights -/
theorem bayes_estimate (X : Matrix m p K) (w z : m → K) (c x0 mu : p → K) (hc : c = x0 - Xᵀ *ᵥ w) :
    w ⬝ᵥ z + c ⬝ᵥ mu = x0 ⬝ᵥ mu + w ⬝ᵥ (z - X *ᵥ mu) := by
  rw [hc, sub_dotProduct, dotProduct_sub, Krig.dotProduct_mulVec_eq]
  ring

end Calculator

section Collocated
open Matrix
variable {K : Type*} [Field K] {m q : Type*} [Fintype m] [Fintype q] [DecidableEq m] [DecidableEq q]

/-- **collocated form of the calculator (known mean)**: the datum of the collocated variables at the target is never
added to the data; with `D = Σ₀₀ᵖᵖ − Σ₀ᵖᵀ Σ⁻¹ Σ₀ᵖ` (Schur complement of the augmented covariance) the calculator takes
`λ₀ = D⁻¹ (Σ₀₀ᵖ − Σ₀ᵖᵀ Σ⁻¹ Σ₀)` for the collocated values and `λ = Σ⁻¹ (Σ₀ − Σ₀ᵖ λ₀)` for the data.  These are the
weights of simple cokriging with the collocated datum added to the data: both block equations of the augmented
system hold, for every size -/
theorem collocated_weights (Sg : Matrix m m K) (C0p : Matrix m q K) (C00pp : Matrix q q K) (s0 : m → K) (c00p : q → K)
    (hS : IsUnit Sg.det) (hD : IsUnit (C00pp - C0pᵀ * Sg⁻¹ * C0p).det) :
    let D := C00pp - C0pᵀ * Sg⁻¹ * C0p
    let lam0 := D⁻¹ *ᵥ (c00p - C0pᵀ *ᵥ (Sg⁻¹ *ᵥ s0))
    let lam := Sg⁻¹ *ᵥ (s0 - C0p *ᵥ lam0)
    Sg *ᵥ lam + C0p *ᵥ lam0 = s0 ∧ C0pᵀ *ᵥ lam + C00pp *ᵥ lam0 = c00p := by
  intro D lam0 lam
  exact Krig.schur_solve Sg C0p C0pᵀ C00pp s0 c00p lam0 hS (Krig.mulVec_inv_mulVec hD _)

end Collocated
end GstProofs.C04
