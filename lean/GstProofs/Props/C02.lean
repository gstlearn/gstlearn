import GstProofs.Props.C01
import Mathlib.LinearAlgebra.Matrix.PosDef
import Mathlib.Analysis.Real.Sqrt
/-!
# C02 — Kriging is exact, unbiased, linear and invariant under relabelling

All clauses are corollaries in the algebraic model of C01 (any field / ℝ for the order clauses).
The correspondence run applies the same relations to the real library (targets on data, permuted
copies, translated copies, data plus drift combinations, linear combinations of data sets).
-/
set_option linter.unusedSectionVars false

namespace GstProofs.Krig

/-- the standard deviation written by the library: `sqrt` of the variance clipped at 0 -/
noncomputable def stdevOf (v : ℝ) : ℝ := if v > 0 then Real.sqrt v else 0

theorem stdev_sq (v : ℝ) (hv : 0 < v) : stdevOf v ^ 2 = v := by
  rw [stdevOf, if_pos hv, Real.sq_sqrt hv.le]

end GstProofs.Krig

namespace GstProofs.C02
open Matrix GstProofs.Krig

variable {K : Type*} [Field K] {n p m : Type*} [Fintype n] [Fintype p] [Fintype m]
  [DecidableEq n] [DecidableEq p] [DecidableEq m]

/-- right-hand side = column `i` of the system: target on datum `i`, same drift values, no extra
error variance -/
theorem exact_weights (A : Matrix m m K) (i : m) (hA : IsUnit A.det) :
    A⁻¹ *ᵥ (fun j => A j i) = Pi.single i 1 :=
  (C01.unique A _ _ hA (mulVec_single_one A i)).symm

/-- exactness: target = datum `i` ⇒ weights = indicator of `i`, estimate = `z i` -/
theorem exact (A : Matrix m m K) (z : m → K) (i : m) (hA : IsUnit A.det) :
    (A⁻¹ *ᵥ (fun j => A j i)) ⬝ᵥ z = z i := by
  rw [exact_weights A i hA, single_one_dotProduct]

/-- … and the estimation variance `σ0² − rhsᵀw` is zero when `σ0² = A i i` -/
theorem exact_variance (A : Matrix m m K) (i : m) (hA : IsUnit A.det) :
    A i i - (fun j => A j i) ⬝ᵥ (A⁻¹ *ᵥ (fun j => A j i)) = 0 := by
  rw [exact_weights A i hA, dotProduct_single_one, sub_self]

/-- unbiasedness: the weights reproduce every drift function (`Xᵀλ = X0`); for the constant drift
they sum to one -/
theorem unbiased (S : Matrix n n K) (X : Matrix n p K) (lam S0 : n → K) (nu X0 : p → K)
    (h : (fromBlocks S X Xᵀ 0) *ᵥ (Sum.elim lam nu) = Sum.elim S0 X0) : Xᵀ *ᵥ lam = X0 :=
  ((block_system S X lam S0 nu X0).mp h).2

theorem weights_sum_one (lam : n → K) (X : Matrix n Unit K) (X0 : Unit → K)
    (hX : ∀ i, X i () = 1) (hX0 : X0 () = 1) (h : Xᵀ *ᵥ lam = X0) : ∑ i, lam i = 1 := by
  simpa only [mulVec, dotProduct, transpose_apply, hX, one_mul, hX0] using congrFun h ()

/-- adding a combination of drift functions to the data adds the same combination to the estimate
(the weights and hence the standard deviations do not depend on the data at all) -/
theorem drift_shift (X : Matrix n p K) (lam z : n → K) (X0 beta : p → K) (h : Xᵀ *ᵥ lam = X0) :
    lam ⬝ᵥ (z + X *ᵥ beta) = lam ⬝ᵥ z + X0 ⬝ᵥ beta := by
  rw [dotProduct_add, dotProduct_mulVec_eq, h]

/-- linearity in the data -/
theorem linear (lam z1 z2 : n → K) (a b : K) :
    lam ⬝ᵥ (a • z1 + b • z2) = a * (lam ⬝ᵥ z1) + b * (lam ⬝ᵥ z2) := by
  rw [dotProduct_add, dotProduct_smul, dotProduct_smul, smul_eq_mul, smul_eq_mul]

/-- relabelling the samples permutes the weights and leaves estimate (and `rhsᵀw`, hence the
standard deviation) unchanged -/
theorem perm (A : Matrix m m K) (b w z : m → K) (e : m ≃ m) (h : A *ᵥ w = b) :
    (A.submatrix e e) *ᵥ (w ∘ e) = b ∘ e ∧ (w ∘ e) ⬝ᵥ (z ∘ e) = w ⬝ᵥ z ∧
    (b ∘ e) ⬝ᵥ (w ∘ e) = b ⬝ᵥ w :=
  ⟨by rw [submatrix_mulVec_equiv, Function.comp_assoc, Equiv.self_comp_symm, Function.comp_id, h],
    comp_equiv_dotProduct_comp_equiv w z e, comp_equiv_dotProduct_comp_equiv b w e⟩

/-- with a known mean the squared standard deviation never exceeds the a-priori variance -/
theorem sk_bound {n : Type*} [Fintype n] [DecidableEq n] (S : Matrix n n ℝ) (S0 : n → ℝ) (s00 : ℝ)
    (hS : S.PosSemidef) : s00 - S0 ⬝ᵥ (S⁻¹ *ᵥ S0) ≤ s00 :=
  sub_le_self s00 (hS.inv.dotProduct_mulVec_nonneg S0)

/-- the standard deviation is a non-negative real whatever the variance computed (clip + sqrt) -/
theorem stdev_nonneg (v : ℝ) : 0 ≤ stdevOf v := by
  unfold stdevOf
  split
  · exact Real.sqrt_nonneg v
  · exact le_refl 0

/-! non-vacuity: a 2-point simple kriging system over ℚ -/
example : IsUnit (!![2, 1; 1, 2] : Matrix (Fin 2) (Fin 2) ℚ).det := by
  rw [Matrix.det_fin_two_of]
  norm_num

end GstProofs.C02
