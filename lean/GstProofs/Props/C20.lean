import GstProofs.Poly.Crossing
/-!
# C20 — Point-in-polygon decisions and polygon selections are geometrically exact

Model: `GstVerif/Poly/Model.lean` (transcription of `PolyElem::inside`, `Polygons::inside`,
`db_polygon`).  Geometric truth for an off-boundary point is *defined* as the parity of the number
of edges strictly crossed by a generic rightward ray (`strictCross`, ordinate not level with any
vertex); that this parity is the interior of a simple polygon is the Jordan curve theorem for
polygons (trusted, not proved here).
-/
namespace GstProofs.C20
open GstVerif GstVerif.Poly GstProofs.Poly

/-- `PolyElem::inside` = parity of the half-open crossing count, for every vertex list and every
point that is on no edge (also when level with vertices / horizontal edges). -/
theorem halfopen (pts : List Pt) (xx yy : Q) (hb : onBoundary xx yy pts = false) :
    insideElem pts xx yy = (countEdges (halfOpen xx yy) pts % 2 != 0) := by
  rw [insideElem, loop_halfOpen pts 0 hb, Nat.zero_add]

/-- … and the half-open count is the crossing count of the generic ray from just below: the
special cases of the implementation are exactly the limit `ε → 0⁺` of the generic ray. -/
theorem ray (pts : List Pt) (xx yy : Q) (hb : onBoundary xx yy pts = false) :
    ∃ e0 : Q, 0 < e0 ∧ ∀ e, 0 < e → e < e0 →
      insideElem pts xx yy = (countEdges (strictCross xx (yy - e)) pts % 2 != 0) :=
  (ray_count pts hb).mono fun e _ h => by rw [halfopen pts xx yy hb, h]

theorem countEdges_snoc (f : Pt → Pt → Bool) : ∀ (l : List Pt) (b a : Pt),
    countEdges f ((l ++ [b]) ++ [a]) = countEdges f (l ++ [b]) + (if f b a then 1 else 0)
  | [], b, a | [_], b, a => by
    simp only [List.nil_append, List.cons_append, countEdges, Nat.add_zero, Nat.zero_add]
  | x :: y :: l, b, a => by
    have ih := countEdges_snoc f (y :: l) b a
    simp only [List.cons_append, countEdges] at ih ⊢
    rw [ih, Nat.add_assoc]

theorem countEdges_reverse (f : Pt → Pt → Bool) (hs : ∀ a b, f a b = f b a) :
    ∀ l : List Pt, countEdges f l.reverse = countEdges f l
  | [] | [_] => rfl
  | a :: b :: rest => by
    rw [List.reverse_cons, List.reverse_cons, countEdges_snoc, ← List.reverse_cons,
      countEdges_reverse f hs (b :: rest), hs b a, countEdges, Nat.add_comm]

theorem onBoundary_eq_count (xx yy : Q) (l : List Pt) :
    onBoundary xx yy l = (countEdges (onSegment xx yy) l != 0) := by
  induction l using countEdges.induct with
  | case1 a b rest ih =>
    rw [onBoundary, countEdges, ih]
    cases onSegment xx yy a b <;> simp
  | case2 l h => simp only [onBoundary, countEdges]; rfl

/-- the answer does not depend on the orientation of the outline -/
theorem orient (pts : List Pt) (xx yy : Q) (hb : onBoundary xx yy pts = false) :
    insideElem pts.reverse xx yy = insideElem pts xx yy := by
  have hb' : onBoundary xx yy pts.reverse = false := by
    rwa [onBoundary_eq_count, countEdges_reverse _ (onSegment_symm xx yy), ← onBoundary_eq_count]
  rw [halfopen _ _ _ hb', halfopen _ _ _ hb, countEdges_reverse _ (halfOpen_symm xx yy)]

/-- union rule: the loop with early return is "some polygon passes" -/
theorem union_spec (eps5 xx yy : Q) (zz : Option Q) (els : List Elem) :
    polygonsInside eps5 els xx yy zz false = els.any (fun e => elemInside eps5 e xx yy zz) := by
  rw [polygonsInside, if_neg Bool.false_ne_true]
  induction els with
  | nil => rfl
  | cons e es ih => rw [insideUnion, List.any_cons, ih, Bool.if_true_left, Bool.decide_eq_true]

/-- nested rule: odd number of passing polygons -/
theorem nested_spec (eps5 xx yy : Q) (zz : Option Q) (els : List Elem) :
    polygonsInside eps5 els xx yy zz true =
      ((els.filter (fun e => elemInside eps5 e xx yy zz)).length % 2 != 0) := by
  rw [polygonsInside, if_pos rfl, ← List.countP_eq_length_filter]
  congr 2
  induction els with
  | nil => rfl
  | cons e es ih => rw [nestedCount, ih, List.countP_cons, Nat.add_comm]

/-- the answer of a polygon set does not depend on the order of its polygons (also with
vertical limits) -/
theorem order_independent (eps5 xx yy : Q) (zz : Option Q) (nested : Bool) (els els' : List Elem)
    (hp : els.Perm els') :
    polygonsInside eps5 els xx yy zz nested = polygonsInside eps5 els' xx yy zz nested := by
  cases nested
  · rw [union_spec, union_spec]; exact hp.any_eq
  · rw [nested_spec, nested_spec, (hp.filter _).length_eq]

/-- a polygon whose vertical limits exclude the point never contributes -/
theorem zlimits_exclude (eps5 xx yy : Q) (zz : Option Q) (e : Elem) (h : inside3D e zz = false) :
    elemInside eps5 e xx yy zz = false := by
  rw [elemInside, h, Bool.false_and]

/-- `db_polygon` (no periodicity) marks exactly the samples that pass the test (and the
previous selection when asked) -/
theorem select (eps5 : Q) (els : List Elem) (flagSel nested : Bool)
    (samples : List (Bool × Q × Q × Option Q)) :
    dbPolygon eps5 els flagSel false nested samples =
      samples.map (fun s => (!flagSel || s.1) && polygonsInside eps5 els s.2.1 s.2.2.1 s.2.2.2 nested) := by
  unfold dbPolygon
  refine List.map_congr_left fun ⟨act, x, y, z⟩ _ => ?_
  simp only [Bool.false_eq_true, if_false, Bool.if_false_right, Bool.decide_eq_true]

/-! ### non-vacuity: a concrete concave polygon, point level with a vertex and a horizontal edge -/
def L : List Pt := [(0,0), (4,0), (4,2), (2,2), (2,4), (0,4), (0,0)]
example : onBoundary 1 2 L = false ∧ insideElem L 1 2 = true ∧ insideElem L 3 3 = false := by decide +kernel
example : countEdges (halfOpen 1 2) L = 1 ∧ countEdges (strictCross 1 (2 - 1/2)) L = 1 := by decide +kernel
example : winding L 1 2 = 1 ∧ winding L 3 3 = 0 := by decide +kernel

end GstProofs.C20
