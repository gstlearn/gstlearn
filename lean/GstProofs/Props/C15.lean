import GstVerif.Mesh.Model
import GstProofs.LinAlg.Bridge
import Mathlib.Algebra.Order.Field.Basic
import Mathlib.Algebra.Order.Field.Rat
import Mathlib.Tactic.Ring
/-!
# C15 — SPDE operators, projections and solvers are mutually consistent

Proved here: the barycentric weights used to project a point on a mesh element sum to one and
reproduce every affine function (1-D segments and 2-D triangles, any non-degenerate element, any
point), and are non-negative exactly for the points of the element (1-D: `a ≤ x ≤ b`; 2-D: the
three sub-areas have the sign of the element);  a precision matrix assembled as `Λ Bᵀ B Λ` style
products (`Mᵀ M`) is symmetric with a non-negative quadratic form (any size).
The agreement of the matrix-free and assembled operators, of the Cholesky and iterative solvers and
the residuals of the linear solves are tied by correspondence (`harness/vh_c15.cpp`).
-/
namespace GstProofs.C15
open GstVerif GstVerif.Mesh

theorem w1_affine (a b x : Q) (h : a ≠ b) (α β : Q) :
    (w1 a b x).1 * (α + β * a) + (w1 a b x).2 * (α + β * b) = α + β * x := by
  unfold w1
  rw [div_mul_eq_mul_div, div_mul_eq_mul_div, ← add_div, div_eq_iff (sub_ne_zero.mpr h.symm)]
  ring

theorem w1_sum (a b x : Q) (h : a ≠ b) : (w1 a b x).1 + (w1 a b x).2 = 1 := by
  simpa using w1_affine a b x h 1 0

theorem w1_reproduces (a b x : Q) (h : a ≠ b) : (w1 a b x).1 * a + (w1 a b x).2 * b = x := by
  simpa using w1_affine a b x h 0 1

theorem w1_nonneg (a b x : Q) (hab : a < b) (h1 : a ≤ x) (h2 : x ≤ b) :
    0 ≤ (w1 a b x).1 ∧ 0 ≤ (w1 a b x).2 :=
  ⟨div_nonneg (sub_nonneg.2 h2) (sub_pos.2 hab).le, div_nonneg (sub_nonneg.2 h1) (sub_pos.2 hab).le⟩

theorem w2_affine (ax ay bx b_y cx cy x y : Q) (h : area2 ax ay bx b_y cx cy ≠ 0) (α β γ : Q) :
    (w2 ax ay bx b_y cx cy x y).1 * (α + β * ax + γ * ay) +
      (w2 ax ay bx b_y cx cy x y).2.1 * (α + β * bx + γ * b_y) +
      (w2 ax ay bx b_y cx cy x y).2.2 * (α + β * cx + γ * cy) = α + β * x + γ * y := by
  unfold w2
  dsimp only
  rw [div_mul_eq_mul_div, div_mul_eq_mul_div, div_mul_eq_mul_div, ← add_div, ← add_div, div_eq_iff h]
  unfold area2
  ring

theorem w2_sum (ax ay bx b_y cx cy x y : Q) (h : area2 ax ay bx b_y cx cy ≠ 0) :
    (w2 ax ay bx b_y cx cy x y).1 + (w2 ax ay bx b_y cx cy x y).2.1 + (w2 ax ay bx b_y cx cy x y).2.2 = 1 := by
  simpa using w2_affine ax ay bx b_y cx cy x y h 1 0 0

/-- affine reproduction: the weights rebuild both coordinates of the point (hence any affine function) -/
theorem w2_reproduces (ax ay bx b_y cx cy x y : Q) (h : area2 ax ay bx b_y cx cy ≠ 0) :
    (w2 ax ay bx b_y cx cy x y).1 * ax + (w2 ax ay bx b_y cx cy x y).2.1 * bx + (w2 ax ay bx b_y cx cy x y).2.2 * cx = x ∧
    (w2 ax ay bx b_y cx cy x y).1 * ay + (w2 ax ay bx b_y cx cy x y).2.1 * b_y + (w2 ax ay bx b_y cx cy x y).2.2 * cy = y :=
  ⟨by simpa using w2_affine ax ay bx b_y cx cy x y h 0 1 0, by simpa using w2_affine ax ay bx b_y cx cy x y h 0 0 1⟩

/-- inside a positively oriented triangle (the three sub-areas are non-negative) the weights are
non-negative -/
theorem w2_nonneg (ax ay bx b_y cx cy x y : Q) (h : 0 < area2 ax ay bx b_y cx cy)
    (h1 : 0 ≤ area2 x y bx b_y cx cy) (h2 : 0 ≤ area2 ax ay x y cx cy) (h3 : 0 ≤ area2 ax ay bx b_y x y) :
    0 ≤ (w2 ax ay bx b_y cx cy x y).1 ∧ 0 ≤ (w2 ax ay bx b_y cx cy x y).2.1 ∧ 0 ≤ (w2 ax ay bx b_y cx cy x y).2.2 :=
  ⟨div_nonneg h1 h.le, div_nonneg h2 h.le, div_nonneg h3 h.le⟩

/-- a matrix of the form `Mᵀ M` is symmetric and its quadratic form is a sum of squares -/
theorem gram_symmetric {m n : Type*} [Fintype m] [Fintype n] (M : Matrix m n ℚ) :
    (M.transpose * M).transpose = M.transpose * M := by
  rw [Matrix.transpose_mul, Matrix.transpose_transpose]

theorem gram_quadratic_nonneg {m n : Type*} [Fintype m] [Fintype n] [DecidableEq n] (M : Matrix m n ℚ) (v : n → ℚ) :
    0 ≤ dotProduct v ((M.transpose * M).mulVec v) := by
  rw [← Matrix.mulVec_mulVec, Matrix.dotProduct_mulVec, Matrix.vecMul_transpose]
  exact Finset.sum_nonneg fun i _ => mul_self_nonneg _

example : w2 0 0 4 0 0 4 1 1 = (1/2, 1/4, 1/4) := by decide +kernel

section operator
open Matrix
variable {n : Type*} [Fintype n] [DecidableEq n]

/-- `Σ_k b_k S^k` by Horner's scheme on matrices (what `_build_Q` assembles, up to the order of the
additions) -/
def polyM (S : Matrix n n ℚ) : List ℚ → Matrix n n ℚ
  | [] => 0
  | b :: bs => b • (1 : Matrix n n ℚ) + S * polyM S bs

/-- Horner's scheme on a vector (`ClassicalPolynomial::evalOp`) -/
def hornerV (S : Matrix n n ℚ) : List ℚ → (n → ℚ) → (n → ℚ)
  | [], _ => 0
  | b :: bs, v => b • v + S.mulVec (hornerV S bs v)

/-- the matrix-free evaluation is the product by the assembled polynomial, for every degree -/
theorem horner_eq (S : Matrix n n ℚ) : ∀ (b : List ℚ) (v : n → ℚ), (polyM S b).mulVec v = hornerV S b v
  | [], v => Matrix.zero_mulVec v
  | b :: bs, v => by
    rw [polyM, hornerV, Matrix.add_mulVec, Matrix.smul_mulVec, Matrix.one_mulVec, ← Matrix.mulVec_mulVec,
      horner_eq S bs v]

/-- **the two forms of the precision operator agree**: `(Λ p(S) Λ) v = Λ · Horner(p, S)(Λ · v)` for
every vector, every shift operator, every polynomial -/
theorem q_forms (S : Matrix n n ℚ) (lam : n → ℚ) (b : List ℚ) (v : n → ℚ) :
    (Matrix.diagonal lam * polyM S b * Matrix.diagonal lam).mulVec v
      = fun i => lam i * hornerV S b (fun j => lam j * v j) i := by
  rw [← Matrix.mulVec_mulVec, ← Matrix.mulVec_mulVec, horner_eq,
    show (Matrix.diagonal lam).mulVec v = fun j => lam j * v j from funext (Matrix.mulVec_diagonal lam v)]
  exact funext (Matrix.mulVec_diagonal lam _)

theorem polyM_comm (S : Matrix n n ℚ) : ∀ b : List ℚ, S * polyM S b = polyM S b * S
  | [] => Commute.zero_right S
  | b :: bs => ((Commute.one_right S).smul_right b).add_right ((Commute.refl S).mul_right (polyM_comm S bs))

theorem polyM_transpose (S : Matrix n n ℚ) : ∀ b : List ℚ, (polyM S b).transpose = polyM S.transpose b
  | [] => Matrix.transpose_zero
  | b :: bs => by
    rw [polyM, polyM, Matrix.transpose_add, Matrix.transpose_smul, Matrix.transpose_one, Matrix.transpose_mul,
      polyM_transpose S bs, polyM_comm]

/-- a symmetric shift operator gives a symmetric precision matrix -/
theorem q_symm (S : Matrix n n ℚ) (hS : S.transpose = S) (lam : n → ℚ) (b : List ℚ) :
    (Matrix.diagonal lam * polyM S b * Matrix.diagonal lam).transpose
      = Matrix.diagonal lam * polyM S b * Matrix.diagonal lam := by
  simp only [Matrix.transpose_mul, Matrix.diagonal_transpose, polyM_transpose, hS, Matrix.mul_assoc]

end operator

/-- the executable polynomial of the driver is `polyM` (so the certificate `u qform` is a statement
about Mathlib matrices) -/
theorem polyMat_toMatrix (n : Nat) (S : GstVerif.LinAlg.Mat) (hr : S.r = n) (hc : S.c = n) : ∀ b : List Q,
    GstProofs.LinAlg.toMatrix n n (polyMat n S b) = polyM (GstProofs.LinAlg.toMatrix n n S) b ∧
    (polyMat n S b).r = n ∧ (polyMat n S b).c = n
  | [] => by
    refine ⟨?_, rfl, rfl⟩
    ext i j
    exact GstProofs.LinAlg.get_ofFn _ _ _ _ _ i.2 j.2
  | b :: bs => by
    obtain ⟨ih, -, ihc⟩ := polyMat_toMatrix n S hr hc bs
    refine ⟨?_, rfl, rfl⟩
    rw [polyMat, polyM, GstProofs.LinAlg.toMatrix_lin n n b 1 _ _ rfl rfl, GstProofs.LinAlg.toMatrix_id,
      GstProofs.LinAlg.toMatrix_mul n n n S _ hr hc ihc, ih, one_smul]

end GstProofs.C15
