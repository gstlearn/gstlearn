import GstProofs.Props.C13
import GstProofs.Props.C15
import GstProofs.LinAlg.Bridge
import GstVerif.Simu.Model
import Mathlib.LinearAlgebra.Matrix.NonsingularInverse
import Mathlib.LinearAlgebra.Matrix.Notation
import Mathlib.Algebra.BigOperators.Intervals
import Mathlib.Algebra.BigOperators.Field
import Mathlib.Data.Rat.Floor
/-!
# C14 — non-conditional simulations follow the model they are given  (PARTIAL)

The property is about the *law* of the simulated fields.  What a theorem about an executable model
can carry is the second-order algebra every simulator relies on, and the generator over ALL seeds:

* a simulator that is a linear map `A` of a white noise has `A Aᵀ` as covariance
  (`white_noise_image`, `image_cov_psd`); the executable `Simu.imageCov` used by the driver on the
  library's own matrices is that product (`imageCov_toMatrix`);
* simulation through the Cholesky factor of a precision matrix (`ACholesky::_addSimulateToDest`,
  `x = L⁻ᵀ w`) has covariance `Q⁻¹` (`precision_simulation`), and the certificate the driver checks,
  `(A Aᵀ) Q = 1`, characterises that covariance (`precision_certificate`);
* the mixing matrix of the turning bands, `V · diag(√λ)` with `V diag(λ) Vᵀ = B`, reproduces the
  matrix of sills `B` (`mixing_sills`), whereas the transposed variant that was shipped
  (`Vᵀ · diag(√λ)`, finding F84) does not (`mixing_transposed_differs`, concrete witness);
* normalising a sum of `n` uncorrelated band processes by `s` with `s² n = 1` gives the average of
  their variances (`bands_norm`);
* over ALL seeds `1 … p−1` the k-th state of the generator is exactly equidistributed
  (`equidistributed`), hence the k-th uniform deviate has mean exactly 1/2 over the seeds
  (`uniform_mean_all_seeds`); deviates of `law_uniform(a,b)` lie strictly inside `(a,b)` and
  `law_int_uniform(a,b)` inside `[a,b]` (`uniformAB_range`, `intUniform_range`);
* the decision rule applied to Monte-Carlo estimates is monotone in the number of standard
  deviations (`withinSigmas_mono`): widening the band can only accept more.

Convergence of the empirical moments of the turning-band / FFT / spectral fields to the model is NOT
a theorem here: it is observed on the library through fixed-size Monte-Carlo runs judged at 6
standard deviations in exact arithmetic (`harness/vh_c14.cpp`).
-/
namespace GstProofs.C14
open Matrix GstVerif GstVerif.LinAlg GstVerif.Simu

section linear
variable {m n : Type*} [Fintype m] [Fintype n] [DecidableEq n] [DecidableEq m]

/-- second moments through a linear map: if `E[w wᵀ] = M` then `E[(A w)(A w)ᵀ] = A M Aᵀ`; for a
white noise (`M = 1`) this is `A Aᵀ` -/
theorem white_noise_image (A : Matrix m n ℚ) : A * (1 : Matrix n n ℚ) * A.transpose = A * A.transpose := by
  rw [Matrix.mul_one]

/-- the covariance `A Aᵀ` of the image of a white noise is positive semi-definite -/
theorem image_cov_psd (A : Matrix m n ℚ) (v : m → ℚ) : 0 ≤ dotProduct v ((A * A.transpose).mulVec v) := by
  have h := GstProofs.C15.gram_quadratic_nonneg A.transpose v
  rwa [Matrix.transpose_transpose] at h

/-- simulation through the Cholesky factor of a precision matrix `Q = L Lᵀ`: the map `w ↦ L⁻ᵀ w`
has covariance `Q⁻¹` -/
theorem precision_simulation (L : Matrix n n ℚ) :
    (L.transpose)⁻¹ * ((L.transpose)⁻¹).transpose = (L * L.transpose)⁻¹ := by
  rw [Matrix.transpose_nonsing_inv, Matrix.transpose_transpose, Matrix.mul_inv_rev]

/-- the certificate checked on the library's matrices: `(A Aᵀ) Q = 1` says that the covariance of
the simulated vector is the inverse of the precision matrix -/
theorem precision_certificate (A Qm : Matrix n n ℚ) (h : (A * A.transpose) * Qm = 1) :
    A * A.transpose = Qm⁻¹ :=
  (Matrix.inv_eq_left_inv h).symm

/-- mixing matrix of the turning bands (`_createAIC`): with `V diag(λ) Vᵀ = B` and `r_i² = λ_i`,
`M = V diag(r)` satisfies `M Mᵀ = B`: independent unit processes mixed by `M` have the matrix of
sills `B` as covariance -/
theorem mixing_sills (V B : Matrix n n ℚ) (lam r : n → ℚ) (hr : ∀ i, r i * r i = lam i)
    (hB : V * Matrix.diagonal lam * V.transpose = B) :
    (V * Matrix.diagonal r) * (V * Matrix.diagonal r).transpose = B := by
  rw [Matrix.transpose_mul, Matrix.diagonal_transpose, ← hB, ← funext hr, ← Matrix.diagonal_mul_diagonal]
  simp only [Matrix.mul_assoc]
end linear

/-- the variant shipped before the repair (finding F84) used `Vᵀ` in place of `V`: for a rotation
that is not symmetric the covariance of the mixed processes is `Vᵀ diag(λ) V`, not `B` (entry (0,1): `−36/25` against `36/25`) -/
theorem mixing_transposed_differs :
    let V : Matrix (Fin 2) (Fin 2) ℚ := !![3/5, -4/5; 4/5, 3/5]
    let r : Fin 2 → ℚ := ![2, 1]
    let lam : Fin 2 → ℚ := ![4, 1]
    let B := V * Matrix.diagonal lam * V.transpose
    (V.transpose * Matrix.diagonal r) * (V.transpose * Matrix.diagonal r).transpose ≠ B := by
  decide +kernel

/-- normalisation by `s` with `s² n = 1` of the sum of `n` uncorrelated band processes of variances
`c b`: the variance of the field is the average of the `c b` (so 1 when each band has variance 1) -/
theorem bands_norm (n : ℕ) (hn : 0 < n) (s : ℚ) (hs : s * s * (n : ℚ) = 1) (c : Fin n → ℚ) :
    dotProduct (fun _ => s) ((Matrix.diagonal c).mulVec (fun _ => s)) = (∑ b, c b) / (n : ℚ) := by
  simp only [dotProduct, Matrix.mulVec_diagonal]
  rw [eq_div_iff (Nat.cast_ne_zero.2 hn.ne'), Finset.sum_mul]
  exact Finset.sum_congr rfl fun b _ => by rw [mul_left_comm, mul_assoc, hs, mul_one]

/-- the executable covariance of the image used by the driver is Mathlib's `A Aᵀ` -/
theorem imageCov_toMatrix (m n : Nat) (A : Mat) (hr : A.r = m) (hc : A.c = n) :
    GstProofs.LinAlg.toMatrix m m (imageCov A) = GstProofs.LinAlg.toMatrix m n A * (GstProofs.LinAlg.toMatrix m n A).transpose := by
  rw [imageCov, GstProofs.LinAlg.toMatrix_mul m n m A A.transpose hr hc hr,
    GstProofs.LinAlg.toMatrix_transpose m n A hr hc]

theorem withinSigmas_iff (k est target var slack : ℚ) : withinSigmas k est target var slack = true ↔
    (est - target) * (est - target) ≤ k * k * var + slack * slack := decide_eq_true_iff

theorem withinSigmas_mono (k k' est target var slack : ℚ) (hk : 0 ≤ k) (hkk : k ≤ k') (hv : 0 ≤ var)
    (h : withinSigmas k est target var slack = true) : withinSigmas k' est target var slack = true := by
  rw [withinSigmas_iff] at h ⊢
  exact h.trans (add_le_add_left (mul_le_mul_of_nonneg_right (mul_self_le_mul_self hk hkk) hv) _)

theorem withinSigmas_exact (k target var slack : ℚ) (hv : 0 ≤ var) :
    withinSigmas k target target var slack = true := by
  rw [withinSigmas_iff, sub_self, mul_zero]
  exact add_nonneg (mul_nonneg (mul_self_nonneg k) hv) (mul_self_nonneg slack)

open GstVerif.Rng

theorem next_bijOn : Set.BijOn next (Finset.Ico 1 P) (Finset.Ico 1 P) := by
  have hm : Set.MapsTo next (Finset.Ico 1 P : Finset Nat) (Finset.Ico 1 P : Finset Nat) := fun x hx => by
    rw [Finset.mem_coe, Finset.mem_Ico] at hx ⊢
    exact GstProofs.C13.next_range x hx.1 hx.2
  have hi : Set.InjOn next (Finset.Ico 1 P : Finset Nat) := fun x hx y hy =>
    GstProofs.C13.next_injective x y (Finset.mem_Ico.mp hx).2 (Finset.mem_Ico.mp hy).2
  exact ⟨hm, hi, Finset.surjOn_of_injOn_of_card_le next hm hi le_rfl⟩

theorem iter_succ' (k x : Nat) : iter (k + 1) x = iter k (next x) := rfl

theorem iter_bijOn : ∀ k : Nat, Set.BijOn (iter k) (Finset.Ico 1 P) (Finset.Ico 1 P)
  | 0 => Set.bijOn_id _
  | k+1 => (iter_bijOn k).comp next_bijOn

/-- over all the seeds `1 … p−1` the state after `k` draws takes every value of `1 … p−1` exactly
once: any statistic of the k-th draw, summed over the seeds, is its sum over the whole range -/
theorem equidistributed {β} [AddCommMonoid β] (f : Nat → β) : ∀ k : Nat,
    ∑ s ∈ Finset.Ico 1 P, f (iter k s) = ∑ j ∈ Finset.Ico 1 P, f j := fun k =>
  Finset.sum_nbij (iter k) (iter_bijOn k).mapsTo (iter_bijOn k).injOn (iter_bijOn k).surjOn fun _ _ => rfl

theorem mean_Ico_one (n : Nat) (hn : 1 < n) :
    (∑ j ∈ Finset.Ico 1 n, ((j : ℚ) / (n : ℚ))) / ((n : ℚ) - 1) = 1 / 2 := by
  have h0 : 0 < n := by omega
  have hsum : (∑ j ∈ Finset.Ico 1 n, (j : ℚ)) * 2 = n * (n - 1) := by
    have h := Finset.sum_range_eq_add_Ico (fun j => (j : ℚ)) h0
    rw [Nat.cast_zero, zero_add] at h
    rw [← h, ← Nat.cast_sum, ← Nat.cast_two, ← Nat.cast_mul, Finset.sum_range_id_mul_two, Nat.cast_mul,
      Nat.cast_pred h0]
  have hn0 : (n : ℚ) ≠ 0 := Nat.cast_ne_zero.2 h0.ne'
  have hn1 : (n : ℚ) - 1 ≠ 0 := sub_ne_zero.2 (Nat.cast_ne_one.2 hn.ne')
  rw [← Finset.sum_div, div_div, div_eq_iff (mul_ne_zero hn0 hn1), ← hsum]
  ring

/-- hence the k-th uniform deviate `state/p`, averaged over all the seeds, is exactly 1/2 -/
theorem uniform_mean_all_seeds (k : Nat) :
    (∑ s ∈ Finset.Ico 1 P, ((iter k s : ℚ) / (P : ℚ))) / ((P : ℚ) - 1) = 1 / 2 := by
  rw [equidistributed (fun x => ((x : ℚ) / (P : ℚ))) k]
  exact mean_Ico_one P (by decide)

/-- `law_uniform(a, b)` stays strictly inside `(a, b)` -/
theorem uniformAB_range (x : Nat) (h0 : 0 < x) (h1 : x < P) (a b : ℚ) (hab : a < b) :
    a < uniformAB x a b ∧ uniformAB x a b < b := by
  obtain ⟨u0, u1⟩ := GstProofs.C13.unif_range x h0 h1
  have hd : 0 < b - a := sub_pos.2 hab
  unfold uniformAB
  exact ⟨lt_add_of_pos_right a (mul_pos u0 hd), lt_sub_iff_add_lt'.1 (mul_lt_of_lt_one_left hd u1)⟩

/-- `law_int_uniform(mini, maxi)` returns an integer of `[mini, maxi]` -/
theorem intUniform_range (x : Nat) (h0 : 0 < x) (h1 : x < P) (mini maxi : Int) (h : mini ≤ maxi) :
    mini ≤ intUniform x mini maxi ∧ intUniform x mini maxi ≤ maxi := by
  obtain ⟨u0, u1⟩ := GstProofs.C13.unif_range x h0 h1
  have hn : (0 : ℚ) < ((maxi - mini + 1 : Int) : ℚ) := Int.cast_pos.2 (by omega)
  have hlo : 0 ≤ ⌊unif x * ((maxi - mini + 1 : Int) : ℚ)⌋ := Int.floor_nonneg.mpr (mul_nonneg u0.le hn.le)
  have hhi : ⌊unif x * ((maxi - mini + 1 : Int) : ℚ)⌋ < maxi - mini + 1 :=
    Int.floor_lt.mpr (mul_lt_of_lt_one_left hn u1)
  rw [show intUniform x mini maxi = mini + ⌊unif x * ((maxi - mini + 1 : Int) : ℚ)⌋ from rfl]
  constructor <;> omega

/-- non-vacuity: seed 1 is a legal state, its first deviate is 105/p -/
example : (0 : Nat) < 1 ∧ 1 < P ∧ unif 1 = 105 / 20000159 := by decide +kernel

end GstProofs.C14
