import GstVerif.Rng.Model
import Mathlib.Tactic.NormNum.Prime
import Mathlib.Data.Nat.Prime.Basic
import Mathlib.Algebra.Order.Field.Basic
import Mathlib.Algebra.Order.Field.Rat
import Mathlib.Data.Nat.ModEq
/-!
# C13 — Simulations are reproducible from their seed and honour their conditioning

Proved on the model of the old-style generator (`GstVerif/Rng/Model.lean`):
* determinism: whatever the incoming generator state, a procedure that first sets a positive seed
  sees the same stream;
* range: from any state not a multiple of `p = 20000159` (prime) every later state is in `[1, p)`,
  hence every uniform deviate is in `(0, 1)`;
* different seeds below `p` give streams that differ at *every* draw (the step is injective);
* conditioning: with exact kriging weights (indicator of the datum, C02) the conditioned value at
  a datum is the datum, for every simulation;
* the final clamp keeps bounded Gaussian draws inside their bounds.
Seeds congruent modulo `p` give identical streams: documented as known finding F23 (witness below).
-/
namespace GstProofs.C13
open GstVerif GstVerif.Rng

theorem p_prime : Nat.Prime P := by unfold P; norm_num

theorem P_pos : 0 < P := by decide

theorem no_wrap : FACTOR * P ≤ 2 ^ 32 := by decide

theorem setSeed_of_pos (st : Nat) {seed : Int} (h : seed > 0) : setSeed st seed = seed.toNat := if_pos h

/-- determinism: the stream after `setSeed s` (s > 0) does not depend on the previous state -/
theorem det (st st' : Nat) (seed : Int) (h : seed > 0) (n : Nat) :
    stream n (setSeed st seed) = stream n (setSeed st' seed) := by
  rw [setSeed_of_pos st h, setSeed_of_pos st' h]

theorem next_small (x : Nat) (h : x < P) : next x = FACTOR * x % P := by
  rw [next, Nat.mod_eq_of_lt (Nat.lt_of_lt_of_le (Nat.mul_lt_mul_of_pos_left h (by decide)) no_wrap)]

theorem next_lt (x : Nat) : next x < P := Nat.mod_lt _ P_pos

/-- the step is injective on `[0, p)`: two different states never merge -/
theorem next_injective (x y : Nat) (hx : x < P) (hy : y < P) (h : next x = next y) : x = y := by
  rw [next_small x hx, next_small y hy] at h
  have := Nat.ModEq.cancel_left_of_coprime ((Nat.Prime.coprime_iff_not_dvd p_prime).2 (by decide)) h
  rwa [Nat.ModEq, Nat.mod_eq_of_lt hx, Nat.mod_eq_of_lt hy] at this

/-- a state in `[1, p)` is followed by a state in `[1, p)`: the generator never reaches 0 and the
uniform deviate is never 0 or 1 -/
theorem next_range (x : Nat) (h0 : 0 < x) (h1 : x < P) : 0 < next x ∧ next x < P :=
  -- 0 is a fixed point, and no other state merges with it
  ⟨Nat.pos_of_ne_zero fun e => h0.ne' (next_injective x 0 h1 P_pos e), next_lt x⟩

theorem unif_range (x : Nat) (h0 : 0 < x) (h1 : x < P) : 0 < unif x ∧ unif x < 1 := by
  obtain ⟨a, b⟩ := next_range x h0 h1
  have hp : (0 : Q) < (P : Q) := Nat.cast_pos.2 P_pos
  exact ⟨div_pos (Nat.cast_pos.2 a) hp, (div_lt_one hp).2 (Nat.cast_lt.2 b)⟩

/-- different seeds in `[1, p)` give streams that differ at every position -/
theorem streams_differ : ∀ (n : Nat) (x y : Nat), x < P → y < P → x ≠ y → iter n x ≠ iter n y
  | 0, _, _, _, _, h => h
  | n+1, x, y, hx, hy, h =>
    streams_differ n (next x) (next y) (next_lt x) (next_lt y) fun e => h (next_injective x y hx hy e)

theorem sum_indicator_mul (i : Nat) (d : List Q) (k : Nat) :
    (List.zipWith (fun w x => w * x) ((List.range' k d.length).map fun j => if j = i then (1 : Q) else 0) d).sum
      = if k ≤ i then d.getD (i - k) 0 else 0 := by
  induction d generalizing k with
  | nil => rw [List.zipWith_nil_right, List.sum_nil, List.getD_nil, ite_self]
  | cons a d ih =>
    rw [List.length_cons, List.range'_succ, List.map_cons, List.zipWith_cons_cons, List.sum_cons, ih]
    rcases Nat.lt_trichotomy k i with h | rfl | h
    · have e : i - k = i - (k + 1) + 1 := (Nat.succ_pred_eq_of_pos (Nat.sub_pos_of_lt h)).symm
      rw [if_neg h.ne, if_pos (Nat.succ_le_of_lt h), if_pos h.le, zero_mul, zero_add, e, List.getD_cons_succ]
    · rw [if_pos rfl, if_neg (Nat.not_succ_le_self k), if_pos (Nat.le_refl k), one_mul, add_zero, Nat.sub_self,
        List.getD_cons_zero]
    · rw [if_neg h.ne', if_neg (Nat.not_le_of_lt (Nat.lt_succ_of_lt h)), if_neg (Nat.not_le_of_lt h), zero_mul,
        zero_add]

/-- conditioning: at a target coinciding with datum `i` (weights = indicator of `i`, property C02)
the conditioned simulation equals the datum whatever the non-conditional simulation -/
theorem exact_conditioning (s z : List Q) (i : Nat) (hi : i < s.length) (hl : s.length = z.length) :
    condition (s.getD i 0) ((List.range s.length).map fun j => if j = i then (1 : Q) else 0) s z
      = z.getD i 0 := by
  have hd : (List.zipWith (· - ·) s z).length = s.length := by rw [List.length_zipWith, ← hl, Nat.min_self]
  rw [condition, List.range_eq_range', ← hd, sum_indicator_mul, if_pos (Nat.zero_le _)]
  simp only [Nat.sub_zero, List.getD_eq_getElem?_getD, List.getElem?_zipWith, List.getElem?_eq_getElem hi,
    List.getElem?_eq_getElem (hl ▸ hi), Option.getD_some, sub_sub_cancel]

/-- bounded draws: the final clamp returns a value inside `[lo, hi]` -/
theorem clamp_bounds (lo hi x : Q) (h : lo ≤ hi) : lo ≤ clamp lo hi x ∧ clamp lo hi x ≤ hi := by
  unfold clamp
  split
  · exact ⟨le_refl _, h⟩
  · split
    · exact ⟨h, le_refl _⟩
    · exact ⟨not_lt.1 ‹_›, not_lt.1 ‹_›⟩

/-- witness of known finding F23: seeds 1 and 1 + p are different seeds with identical streams -/
example : next 1 = next (1 + P) := by decide
/-- … and a seed that is a multiple of p freezes the generator at 0 (then `log 0` in `law_gaussian`) -/
example : next P = 0 ∧ next 0 = 0 := by decide
/-! non-vacuity -/
example : stream 3 (setSeed 5 132) = [13860, 1455300, 12805387] := by decide

theorem digit_lt {a b n m : Nat} (ha : a < n) (hb : b < m) : a + n * b < n * m :=
  calc a + n * b < n + n * b := Nat.add_lt_add_right ha _
    _ = n * (b + 1) := by rw [Nat.mul_succ, Nat.add_comm]
    _ ≤ n * m := Nat.mul_le_mul_left n hb

theorem digit_inj {a₁ a₂ b₁ b₂ n : Nat} (h₁ : a₁ < n) (h₂ : a₂ < n) (h : a₁ + n * b₁ = a₂ + n * b₂) :
    a₁ = a₂ ∧ b₁ = b₂ := by
  have ha : a₁ = a₂ := by
    have := congrArg (· % n) h
    rwa [Nat.add_mul_mod_self_left, Nat.add_mul_mod_self_left, Nat.mod_eq_of_lt h₁, Nat.mod_eq_of_lt h₂] at this
  subst ha
  exact ⟨rfl, Nat.eq_of_mul_eq_mul_left (Nat.zero_lt_of_lt h₁) (Nat.add_left_cancel h)⟩

/-- the address stays inside the block of `nbsimu * nvar * ncase` columns -/
theorem simRank_lt (isimu ivar icase nbsimu nvar ncase : Nat) (h1 : isimu < nbsimu) (h2 : ivar < nvar)
    (h3 : icase < ncase) : simRank isimu ivar icase nbsimu nvar < nbsimu * (nvar * ncase) :=
  digit_lt h1 (digit_lt h2 h3)

/-- two different (simulation, variable, system) triples never share a column: the values of one
simulation are never read as those of another -/
theorem simRank_injective (nbsimu nvar : Nat) (i1 v1 c1 i2 v2 c2 : Nat)
    (hi1 : i1 < nbsimu) (hi2 : i2 < nbsimu) (hv1 : v1 < nvar) (hv2 : v2 < nvar)
    (h : simRank i1 v1 c1 nbsimu nvar = simRank i2 v2 c2 nbsimu nvar) : i1 = i2 ∧ v1 = v2 ∧ c1 = c2 := by
  obtain ⟨hi, h'⟩ := digit_inj hi1 hi2 h
  exact ⟨hi, digit_inj hv1 hv2 h'⟩

/-- finding F91 (repaired): the Gibbs sampler stored its results at another address than the one
every reader uses as soon as there are two Gaussian fields and two simulations -/
theorem gibbs_old_address_differs :
    gibbsRankOld 1 0 0 1 2 ≠ simRank 1 0 0 2 2 ∧ gibbsRankOld 0 1 0 1 2 = simRank 1 0 0 2 2 := by
  decide

end GstProofs.C13
