import GstVerif.Grid.Model
import GstProofs.Basic.Digit
import Mathlib.Tactic.Ring
import Mathlib.Algebra.Order.Field.Rat
/-!
# C16 — Grid geometry conversions are mutually inverse

Lemmas on the loop of `rankToIndice` (namespace `GstProofs.Grid`), then the property theorems.  The model is
`GstVerif/Grid/Model.lean`, a transcription of `src/Basic/Grid.cpp`; reals are ℚ (every double is a
rational, so ℚ covers all inputs the library can receive; rounding is not modelled).
The rotation is abstract: any pair `rot`, `rinv` with `rinv ∘ rot = id` (and `rot ∘ rinv = id`
where needed) — the library's `_rotInv` is the transpose of `_rotMat`.
-/
namespace GstProofs.Grid
open GstVerif.Grid

def allPos : List Int → Prop
  | [] => True
  | n :: nx => 0 < n ∧ allPos nx

theorem prodL_pos : ∀ nx, allPos nx → 0 < prodL nx
  | [], _ => Int.one_pos
  | _ :: nx, h => Int.mul_pos h.1 (prodL_pos nx h.2)

theorem inRange_cons {n i : Int} {nx ind : List Int} :
    inRange (n :: nx) (i :: ind) = true ↔ (0 ≤ i ∧ i < n) ∧ inRange nx ind = true := by
  simp only [inRange, Bool.and_eq_true, decide_eq_true_eq]

theorem inRange_length : ∀ {nx ind : List Int}, inRange nx ind = true → ind.length = nx.length
  | [], [], _ => rfl
  | _ :: _, _ :: _, h => congrArg (· + 1) (inRange_length (inRange_cons.1 h).2)

theorem go_spec : ∀ (nx : List Int) (pre rank : Int), allPos nx → 0 < pre → 0 ≤ rank → rank < pre * prodL nx →
    ∃ ind rem, rankToIndiceGo pre nx rank = (ind, rem) ∧ inRange nx ind = true ∧ (0 ≤ rem ∧ rem < pre) ∧
      rank = hornerRank nx ind * pre + rem
  | [], pre, rank, _, _, h0, h1 =>
    ⟨[], rank, rfl, rfl, ⟨h0, Int.mul_one pre ▸ h1⟩, show rank = 0 * pre + rank by rw [Int.zero_mul, Int.zero_add]⟩
  | n :: nx, pre, rank, hp, hpre, h0, h1 => by
    obtain ⟨ind, rem, hgo, ir, ⟨r0, r1⟩, req⟩ :=
      go_spec nx (pre * n) rank hp.2 (Int.mul_pos hpre hp.1) h0 (Int.mul_assoc pre n _ ▸ h1)
    obtain ⟨q, d⟩ := digit_decompose r0 hpre r1
    refine ⟨_, _, by rw [rankToIndiceGo, hgo], inRange_cons.2 ⟨q, ir⟩, d, req.trans ?_⟩
    simp only [hornerRank]
    ring

theorem go_inv : ∀ (nx ind : List Int) (pre rem : Int), inRange nx ind = true → 0 ≤ rem → rem < pre →
    rankToIndiceGo pre nx (hornerRank nx ind * pre + rem) = (ind, rem)
  | [], [], pre, rem, _, _, _ => show rankToIndiceGo pre [] (0 * pre + rem) = ([], rem) by
    rw [Int.zero_mul, Int.zero_add, rankToIndiceGo]
  | n :: nx, i :: ind, pre, rem, hr, h0, h1 => by
    obtain ⟨⟨hi0, hi1⟩, hrest⟩ := inRange_cons.1 hr
    obtain ⟨⟨b0, b1⟩, hq⟩ := digit_compose hi0 hi1 h0 h1
    have e : hornerRank (n :: nx) (i :: ind) * pre + rem
        = hornerRank nx ind * (pre * n) + (i * pre + rem) := by
      simp only [hornerRank]
      ring
    simp only [rankToIndiceGo, e, go_inv nx ind (pre * n) _ hrest b0 b1, hq, add_sub_cancel_left]

theorem rankToIndice_spec (nx : List Int) (r : Int) (hp : allPos nx) (h0 : 0 ≤ r) (h1 : r < prodL nx) :
    inRange nx (rankToIndice nx r) = true ∧ hornerRank nx (rankToIndice nx r) = r := by
  obtain ⟨ind, rem, hgo, hin, ⟨r0, r1⟩, req⟩ := go_spec nx 1 r hp Int.one_pos h0 (Int.one_mul _ ▸ h1)
  rw [Int.le_antisymm (Int.lt_add_one_iff.1 r1) r0, Int.mul_one, Int.add_zero] at req
  rw [rankToIndice, hgo]
  exact ⟨hin, req.symm⟩

theorem indiceToRank_of_inRange {nx ind : List Int} (h : inRange nx ind = true) :
    indiceToRank nx ind = hornerRank nx ind := if_pos h

end GstProofs.Grid

namespace GstProofs.C16
open GstVerif GstVerif.Grid GstProofs.Grid

/-- rank → indices → rank, every dimension, every `nx > 0` -/
theorem rank_ind (nx : List Int) (r : Int) (hp : allPos nx) (h0 : 0 ≤ r) (h1 : r < prodL nx) :
    indiceToRank nx (rankToIndice nx r) = r := by
  obtain ⟨hin, hr⟩ := rankToIndice_spec nx r hp h0 h1
  rw [indiceToRank_of_inRange hin, hr]

/-- … and the indices produced are inside the grid -/
theorem rank_ind_inRange (nx : List Int) (r : Int) (hp : allPos nx) (h0 : 0 ≤ r)
    (h1 : r < prodL nx) : inRange nx (rankToIndice nx r) = true :=
  (rankToIndice_spec nx r hp h0 h1).1

/-- indices → rank → indices -/
theorem ind_rank (nx ind : List Int) (hp : allPos nx) (hin : inRange nx ind = true) :
    rankToIndice nx (indiceToRank nx ind) = ind := by
  have h := go_inv nx ind 1 0 hin (Int.le_refl 0) Int.one_pos
  rw [Int.mul_one, Int.add_zero] at h
  rw [indiceToRank_of_inRange hin, rankToIndice, h]

/-- out-of-range indices are reported by `-1` -/
theorem indiceToRank_outside (nx ind : List Int) (h : inRange nx ind = false) :
    indiceToRank nx ind = -1 :=
  if_neg (ne_true_of_eq_false h)

def allPosQ : List Q → Prop
  | [] => True
  | d :: ds => 0 < d ∧ allPosQ ds

theorem zipSub_zipAdd : ∀ (a b : List Q), a.length = b.length → zipSub (zipAdd a b) b = a
  | [], _, _ => rfl
  | _ :: _, [], h => nomatch h
  | x :: a, y :: b, h => by
    rw [zipAdd, zipSub, zipSub_zipAdd a b (Nat.succ.inj h), add_sub_cancel_right]

theorem zipMul_eq_zipWith : ∀ a b : List Q, zipMul a b = List.zipWith (· * ·) a b
  | [], _ => rfl
  | _ :: _, [] => rfl
  | x :: a, y :: b => congrArg (x * y :: ·) (zipMul_eq_zipWith a b)

theorem gridVec_nil (dx : List Q) (ind : List Int) :
    gridVec dx ind [] = zipMul (ind.map fun i : Int => (i : Q)) dx := rfl

theorem floor_eq_iff {q : Q} {i : Int} : q.floor = i ↔ (i : Q) ≤ q ∧ q < (i : Q) + 1 := by
  rw [← Rat.le_floor_iff, ← Int.cast_one, ← Int.cast_add, ← Rat.floor_lt_iff, Int.lt_add_one_iff,
    ← Int.le_antisymm_iff, eq_comm]

/-- per-axis characterisation of the cell index: `floor` picks the cell containing the point -/
theorem cell_iff (centered : Bool) (eps w d : Q) (i : Int) :
    cellIndex centered eps w d = i ↔
      ((i : Q) ≤ w / d + (if centered then 1/2 else 0) + eps ∧
        w / d + (if centered then 1/2 else 0) + eps < (i : Q) + 1) := by
  rw [← floor_eq_iff]
  cases centered
  · rw [cellIndex, if_neg Bool.false_ne_true, if_neg Bool.false_ne_true, add_zero]
  · rfl

theorem cellIndex_node (centered : Bool) (eps d : Q) (i : Int) (hd : 0 < d)
    (he : if centered then (-(1/2) ≤ eps ∧ eps < 1/2) else (0 ≤ eps ∧ eps < 1)) :
    cellIndex centered eps (i * d) d = i := by
  rw [cell_iff, mul_div_cancel_right₀ _ hd.ne', add_assoc, le_add_iff_nonneg_right, add_lt_add_iff_left]
  -- what is left is that the shift (`1/2` or `0`) plus `eps` lies in `[0, 1)`
  cases centered
  · rw [if_neg Bool.false_ne_true] at he ⊢
    rwa [zero_add]
  · rw [if_pos rfl] at he ⊢
    exact ⟨neg_le_iff_add_nonneg'.1 he.1, (add_lt_add_right he.2 _).trans_eq (add_halves 1)⟩

theorem cellIndices_gridVec (ind : List Int) (dx : List Q) (centered : Bool) (eps : Q)
    (hl : ind.length = dx.length) (hd : allPosQ dx)
    (he : if centered then (-(1/2) ≤ eps ∧ eps < 1/2) else (0 ≤ eps ∧ eps < 1)) :
    cellIndices centered eps (gridVec dx ind []) dx = ind := by
  rw [gridVec_nil]
  induction ind generalizing dx with
  | nil => rfl
  | cons i ind ih =>
    cases dx with
    | nil => cases hl
    | cons d dx =>
      rw [List.map_cons, zipMul, cellIndices, cellIndex_node centered eps d i hd.1 he,
        ih dx (Nat.succ.inj hl) hd.2]

/-- indices → coordinates → indices returns the starting indices: every dimension, every origin,
every positive mesh, every rotation (`rinv ∘ rot = id`), both `centered` modes -/
theorem ind_coord (rot rinv : List Q → List Q) (nx ind : List Int) (dx x0 : List Q)
    (centered : Bool) (eps : Q)
    (hinv : ∀ v, rinv (rot v) = v) (hlen : ∀ v, (rot v).length = v.length)
    (hl : ind.length = dx.length) (hx : x0.length = dx.length) (hd : allPosQ dx)
    (he : if centered then (-(1/2) ≤ eps ∧ eps < 1/2) else (0 ≤ eps ∧ eps < 1)) :
    (coordinateToIndices rinv nx dx x0 (indicesToCoordinate rot dx x0 ind []) centered eps).1 = ind := by
  have hg : (rot (gridVec dx ind [])).length = x0.length := by
    rw [hlen, gridVec_nil, zipMul_eq_zipWith, List.length_zipWith, List.length_map, hl, Nat.min_self, hx]
  simp only [coordinateToIndices, indicesToCoordinate]
  rw [zipSub_zipAdd _ _ hg, hinv]
  exact cellIndices_gridVec ind dx centered eps hl hd he

/-- a node is never reported outside, and the outside flag is exactly "some index leaves [0,nx)" -/
theorem outside_iff (rinv : List Q → List Q) (nx : List Int) (dx x0 coor : List Q)
    (centered : Bool) (eps : Q) :
    (coordinateToIndices rinv nx dx x0 coor centered eps).2 = false ↔
      inRange nx (coordinateToIndices rinv nx dx x0 coor centered eps).1 = true := by
  simp [coordinateToIndices]

theorem coordinateToRank_eq (rinv : List Q → List Q) (nx : List Int) (dx x0 coor : List Q)
    (centered : Bool) (eps : Q) :
    coordinateToRank rinv nx dx x0 coor centered eps =
      indiceToRank nx (coordinateToIndices rinv nx dx x0 coor centered eps).1 := by
  simp only [coordinateToRank, coordinateToIndices, Bool.not_eq_true']
  split_ifs with h
  · exact (indiceToRank_outside _ _ h).symm
  · rfl

/-- rank → coordinates → rank -/
theorem rank_coord (rot rinv : List Q → List Q) (nx : List Int) (dx x0 : List Q) (r : Int)
    (centered : Bool) (eps : Q)
    (hinv : ∀ v, rinv (rot v) = v) (hlen : ∀ v, (rot v).length = v.length)
    (hl : nx.length = dx.length) (hx : x0.length = dx.length) (hd : allPosQ dx) (hp : allPos nx)
    (h0 : 0 ≤ r) (h1 : r < prodL nx)
    (he : if centered then (-(1/2) ≤ eps ∧ eps < 1/2) else (0 ≤ eps ∧ eps < 1)) :
    coordinateToRank rinv nx dx x0 (rankToCoordinates rot nx dx x0 r []) centered eps = r := by
  have hlen2 := (inRange_length (rank_ind_inRange nx r hp h0 h1)).trans hl
  rw [coordinateToRank_eq, rankToCoordinates,
    ind_coord rot rinv nx _ dx x0 centered eps hinv hlen hlen2 hx hd he, rank_ind nx r hp h0 h1]

/-- whenever the mirror loop returns, the result lies in `[0, nx)` -/
theorem mirror_range : ∀ (fuel : Nat) (nx ix m : Int), mirrorGo fuel nx ix = some m → 0 ≤ m ∧ m < nx
  | 0, _, _, _, h => nomatch h
  | fuel+1, nx, ix, m, h => by
    simp only [mirrorGo] at h
    split at h
    · exact mirror_range fuel nx _ m h
    · cases h
      omega

/-! ### non-vacuity: a concrete 3-D grid meets every hypothesis -/
example : allPos [3, 4, 5] ∧ (0:Int) ≤ 37 ∧ (37:Int) < prodL [3, 4, 5] := by
  simp [allPos, prodL]
example : rankToIndice [3, 4, 5] 37 = [1, 0, 3] ∧ indiceToRank [3, 4, 5] [1, 0, 3] = 37 := by decide
example : allPosQ [1/2, 3] := by simp [allPosQ]

end GstProofs.C16
