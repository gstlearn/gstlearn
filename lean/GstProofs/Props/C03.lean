import GstVerif.Cov.Model
import Mathlib.Tactic.Linarith
import Mathlib.Tactic.Positivity
import Mathlib.Tactic.Ring
import Mathlib.LinearAlgebra.Matrix.DotProduct
/-!
# C03 — every offered covariance model is a valid model

Proved here for the structures whose correlation is a polynomial of the reduced distance
(spherical, cubic, triangle, the three Wendland functions, the penta / 1-D regular function):
for EVERY reduced distance `h ≥ 0`:  `|C(h)| ≤ C(0) = 1`,  the structure vanishes beyond its
range and is continuous there (no jump at `h = 1`, resp. `h = 2`).  The reduced distance itself is
even (`C(h) = C(-h)`) and unchanged when the same rotation is applied to the separation and to the
anisotropy axes.

Positive definiteness of a function for all point sets (Bochner) is not proved: it is *certified*
instance by instance (exact LDLᵗ of the library's covariance matrix, `s psd`), as are the values of
the exponential and Gaussian structures (rational enclosures of `exp`).

The bounds of the structures cut off at `h = 1` are one argument (`cutoff_bounds`): on `[0, 1)` the
structure is `(1 - h)^k q(h)` with the coefficients of `q` between `0` and those of `(1 + h)^k`, so
that `0 ≤ C(h) ≤ (1 - h²)^k ≤ 1`.
-/
namespace GstProofs.C03
open GstVerif GstVerif.Cov

theorem cutoff_bounds {h c q r : Q} (k : ℕ) (h0 : 0 ≤ h) (e : c = (1 - h) ^ k * q)
    (q0 : 0 ≤ q) (r0 : 0 ≤ r) (er : q + r = (1 + h) ^ k) :
    0 ≤ (if h < 1 then c else 0) ∧ (if h < 1 then c else 0) ≤ 1 := by
  split_ifs with h1
  · have t : 0 ≤ (1 - h) ^ k := pow_nonneg (sub_nonneg.2 h1.le) k
    rw [e]
    refine ⟨mul_nonneg t q0, ?_⟩
    calc (1 - h) ^ k * q ≤ (1 - h) ^ k * (1 + h) ^ k :=
          mul_le_mul_of_nonneg_left ((le_add_of_nonneg_right r0).trans_eq er) t
      _ = (1 - h * h) ^ k := by rw [← mul_pow]; ring
      _ ≤ 1 := pow_le_one₀ (sub_nonneg.2 (mul_le_one₀ h1.le h0 h1.le))
        (sub_le_self 1 (mul_nonneg h0 h0))
  · exact ⟨le_rfl, zero_le_one⟩

/-- `MAX(0, c)` of `CovCubic` and `CovTriangle` -/
theorem clamp_bounds {c : Q} (c1 : c ≤ 1) :
    0 ≤ (if c < 0 then 0 else c) ∧ (if c < 0 then 0 else c) ≤ 1 := by
  split_ifs with c0
  · exact ⟨le_rfl, zero_le_one⟩
  · exact ⟨not_lt.1 c0, c1⟩

theorem spherical_bounds (h : Q) (h0 : 0 ≤ h) : 0 ≤ spherical h ∧ spherical h ≤ 1 :=
  cutoff_bounds 2 h0 (q := 1 + h / 2) (r := h * (3 / 2 + h)) (by ring) (by positivity) (by positivity) (by ring)

theorem spherical_zero : spherical 0 = 1 := by norm_num [spherical]
theorem spherical_beyond (h : Q) (h1 : 1 ≤ h) : spherical h = 0 := if_neg (not_lt.2 h1)
/-- no jump at the range -/
theorem spherical_continuous_at_range : (1 : Q) - 1 / 2 * 1 * (3 - 1 * 1) = 0 := by norm_num

theorem wendland0_bounds (h : Q) (h0 : 0 ≤ h) : 0 ≤ wendland0 h ∧ wendland0 h ≤ 1 :=
  cutoff_bounds 2 h0 (q := 1) (r := h * (2 + h)) (by ring) zero_le_one (by positivity) (by ring)

theorem wendland1_bounds (h : Q) (h0 : 0 ≤ h) : 0 ≤ wendland1 h ∧ wendland1 h ≤ 1 :=
  cutoff_bounds 4 h0 (q := 1 + 4 * h) (r := h * h * (6 + h * (4 + h)))
    (by ring) (by positivity) (by positivity) (by ring)

theorem wendland2_unit (h : Q) (h0 : 0 ≤ h) : 0 ≤ wendland2 h ∧ wendland2 h ≤ 1 :=
  cutoff_bounds 6 h0 (q := 1 + 6 * h + 35 / 3 * h ^ 2)
    (r := h * h * (10 / 3 + h * (20 + h * (15 + h * (6 + h)))))
    (by ring) (by positivity) (by positivity) (by ring)

theorem wendland2_bounds (h : Q) (h0 : 0 ≤ h) : 0 ≤ wendland2 h := (wendland2_unit h h0).1

theorem cubic_bounds (h : Q) (h0 : 0 ≤ h) : 0 ≤ cubic h ∧ cubic h ≤ 1 :=
  clamp_bounds (cutoff_bounds 4 h0 (q := 1 + 4 * h + 3 * h ^ 2 + 3 / 4 * h ^ 3)
    (r := h * h * (3 + h * (13 / 4 + h)))
    (by ring) (by positivity) (by positivity) (by ring)).2

theorem triangle_bounds (h : Q) (h0 : 0 ≤ h) : 0 ≤ triangle h ∧ triangle h ≤ 1 :=
  clamp_bounds (sub_le_self 1 h0)

theorem penta_bounds (h : Q) (h0 : 0 ≤ h) : 0 ≤ penta h ∧ penta h ≤ 1 :=
  cutoff_bounds 6 h0 (q := 1 + 6 * h + 41 / 3 * h ^ 2 + 12 * h ^ 3 + 5 * h ^ 4 + 5 / 6 * h ^ 5)
    (r := h * h * (4 / 3 + h * (8 + h * (10 + h * (31 / 6 + h)))))
    (by ring) (by positivity) (by positivity) (by ring)

/-- the 1-D regular function (REG1D): bounded by `C(0)` in absolute value, takes negative
values between the range and twice the range, vanishes beyond -/
theorem reg1d_bounds (h : Q) (h0 : 0 ≤ h) : -1 ≤ reg1d h ∧ reg1d h ≤ 1 := by
  unfold reg1d
  split_ifs with h1 h2
  · have t : 0 ≤ 1 - h := sub_nonneg.2 h1.le
    constructor <;> rw [← sub_nonneg]
    · calc 0 ≤ 3 / 2 * (1 - h) ^ 2 + 1 / 2 + h ^ 3 / 4 := by positivity
        _ = _ := by ring
    · calc 0 ≤ 3 * h * ((1 - h) * (7 + h) / 12 + 5 / 12) := by positivity
        _ = _ := by ring
  · -- here the function is `-(2 - h)³ / 4`
    have t : 0 ≤ 2 - h := sub_nonneg.2 h2.le
    have y : 0 ≤ 1 - (2 - h) ^ 3 := sub_nonneg.2 (pow_le_one₀ t (by linarith))
    constructor <;> rw [← sub_nonneg]
    · calc 0 ≤ (1 - (2 - h) ^ 3) / 4 + 3 / 4 := by positivity
        _ = _ := by ring
    · calc 0 ≤ 1 + (2 - h) ^ 3 / 4 := by positivity
        _ = _ := by ring
  · norm_num

theorem reg1d_beyond (h : Q) (h2 : 2 ≤ h) : reg1d h = 0 := by
  unfold reg1d
  rw [if_neg (not_lt.2 (one_le_two.trans h2)), if_neg (not_lt.2 h2)]

/-- evenness: the reduced distance of `-d` is the one of `d` (hence `C(h) = C(-h)`) -/
theorem redDist2_neg (scales d : List Q) (R : List (List Q)) :
    redDist2 R scales (d.map (fun x => -x)) = redDist2 R scales d := by
  have hrow : ∀ row : List Q, (List.zipWith (· * ·) row (d.map fun x => -x)).sum
      = -(List.zipWith (· * ·) row d).sum := fun row => by
    rw [List.zipWith_map_right, List.sum_neg, List.map_zipWith]; simp only [mul_neg]
  unfold redDist2
  simp only [hrow, List.zipWith_map_left, neg_div, neg_mul_neg]

/-- a rotation (orthogonal matrix) preserves the squared norm: measuring the separation in the
rotated frame with isotropic scales gives the same distance (Mathlib matrices, any dimension) -/
theorem rotation_preserves_norm {n : Type*} [Fintype n] [DecidableEq n]
    (R : Matrix n n ℚ) (hR : R.transpose * R = 1) (v : n → ℚ) :
    dotProduct (R.mulVec v) (R.mulVec v) = dotProduct v v := by
  rw [Matrix.dotProduct_mulVec, Matrix.vecMul_mulVec, hR, Matrix.vecMul_one]

/-- non-vacuity / numerical anchors -/
example : spherical (1/2) = 5/16 := by norm_num [spherical]
example : reg1d (3/2) = -1/32 := by norm_num [reg1d]

theorem powQ_eq_pow (b : Q) : ∀ n : Nat, powQ b n = b ^ n
  | 0 => (pow_zero b).symm
  | n+1 => by rw [powQ, powQ_eq_pow b n, pow_succ']

theorem inv_powQ_bounds {b : Q} (hb : 1 ≤ b) (n : Nat) : 0 < 1 / powQ b n ∧ 1 / powQ b n ≤ 1 := by
  have p := one_le_pow₀ hb (n := n)
  rw [powQ_eq_pow, one_div]
  exact ⟨inv_pos.2 (zero_lt_one.trans_le p), inv_le_one_of_one_le₀ p⟩

/-- `CovGamma` with an integer exponent: a correlation in `(0, 1]` -/
theorem gamma_bounds (a : Nat) (h : Q) (h0 : 0 ≤ h) : 0 < gammaCov a h ∧ gammaCov a h ≤ 1 :=
  inv_powQ_bounds (le_add_of_nonneg_right h0) a

/-- `CovCauchy` with an integer exponent: a correlation in `(0, 1]` -/
theorem cauchy_bounds (a : Nat) (h : Q) : 0 < cauchyCov a h ∧ cauchyCov a h ≤ 1 :=
  inv_powQ_bounds (le_add_of_nonneg_right (mul_self_nonneg h)) a

/-- polynomial factor of the half-integer Matern correlations: equals 1 at the origin (so that
`C(0) = 1`) and is at least 1 beyond -/
theorem maternHalfPoly_spec (k : Nat) (h p : Q) (h0 : 0 ≤ h) (hp : maternHalfPoly k h = some p) :
    1 ≤ p ∧ (h = 0 → p = 1) := by
  unfold maternHalfPoly at hp
  split at hp <;> cases hp
  · exact ⟨le_rfl, fun _ => rfl⟩
  · exact ⟨le_add_of_nonneg_right h0, fun e => by rw [e, add_zero]⟩
  · exact ⟨le_add_of_le_of_nonneg (le_add_of_nonneg_right h0) (by positivity),
      fun e => by rw [e]; norm_num⟩

end GstProofs.C03
