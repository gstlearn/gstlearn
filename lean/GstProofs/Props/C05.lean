import GstProofs.Props.C01
import GstProofs.Props.C12
/-!
# C05 — masked or undefined samples never influence a result

Model-level reasons why a computation over a data base holding masked / undefined samples equals
the computation over the data base from which they were physically removed:

* experimental variogram: a pair contributes only when both samples are active and carry the two
  variables involved, so the pairwise definition over all samples equals the definition over the
  samples that count (`vario_removed`, any number of samples, any lag / direction);
* statistics: the accumulation loop that skips masked and undefined values equals the loop over the
  list from which they were removed (`moments_removed`);
* kriging: the system is assembled from the compressed list of (sample, variable) rows that are
  active and defined (`GstProofs.C01.compress`, `compress_rhs`).

The equality of the two runs of the library is the correspondence part (`harness/vh_c05.cpp`).
-/
namespace GstProofs.C05
open GstVerif GstVerif.Vario

theorem pairsOf_filter {α} (p : α → Bool) : ∀ l : List α,
    pairsOf (l.filter p) = (pairsOf l).filter fun q => p q.1 && p q.2
  | [] => rfl
  | a :: as => by
    rw [pairsOf, List.filter_append, List.filter_map, ← pairsOf_filter p as, List.filter_cons]
    simp only [Function.comp_def]
    cases p a
    · simp only [Bool.false_eq_true, if_false, Bool.false_and, List.filter_false, List.map_nil, List.nil_append]
    · simp only [if_true, Bool.true_and, pairsOf]

/-- pairs whose contribution is `none` as soon as one member fails `p`: removing the failing
elements first gives the same contributions -/
theorem pairs_filter {α β} (f : α × α → Option β) (p : α → Bool)
    (h1 : ∀ a b, p a = false → f (a, b) = none) (h2 : ∀ a b, p b = false → f (a, b) = none) :
    ∀ l : List α, (pairsOf (l.filter p)).filterMap f = (pairsOf l).filterMap f := by
  intro l
  rw [pairsOf_filter, List.filterMap_filter]
  congr 1
  funext ⟨a, b⟩
  cases ha : p a
  · rw [h1 a b ha]; exact ite_self _
  cases hb : p b
  · rw [h2 a b hb]; exact ite_self _
  · rfl

/-- a sample counts for the variables `(iv, jv)` when it is active and both values are defined -/
def counts (iv jv : Nat) (s : Sample) : Bool :=
  usable s && (s.z.getD iv none).isSome && (s.z.getD jv none).isSome

/-- a pair contributes only when both samples count -/
theorem pairTerm_some (d : Dir) (iv jv k : Nat) (a b : Sample) (t : Q × Q × Q)
    (h : pairTerm d iv jv k (a, b) = some t) : counts iv jv a = true ∧ counts iv jv b = true := by
  simp only [pairTerm, Option.ite_none_left_eq_some, Bool.not_eq_true, Bool.not_eq_false', Bool.and_eq_true] at h
  obtain ⟨hu, -, h⟩ := h
  split at h
  · cases h
  split at h
  · cases h
  split at h
  · rename_i e1 e2 e3 e4
    simp only [counts, hu.1, hu.2, e1, e2, e3, e4, Option.isSome_some, Bool.and_self, and_self]
  · cases h

theorem pairTerm_none (d : Dir) (iv jv k : Nat) (a b : Sample)
    (h : counts iv jv a = false ∨ counts iv jv b = false) : pairTerm d iv jv k (a, b) = none :=
  Option.eq_none_iff_forall_ne_some.2 fun t ht =>
    have ⟨ha, hb⟩ := pairTerm_some d iv jv k a b t ht
    h.elim (fun h => Bool.false_ne_true (h ▸ ha)) fun h => Bool.false_ne_true (h ▸ hb)

/-- **Variogram: masked samples and samples where a variable is undefined can be removed.** -/
theorem vario_removed (d : Dir) (iv jv k : Nat) (samples : List Sample) :
    lagDef d iv jv k (samples.filter (counts iv jv)) = lagDef d iv jv k samples := by
  rw [lagDef, pairs_filter (pairTerm d iv jv k) (counts iv jv) (fun a b h => pairTerm_none d iv jv k a b (.inl h))
    (fun a b h => pairTerm_none d iv jv k a b (.inr h)) samples, lagDef]

/-! ### statistics: the accumulation loop of `dbStatisticsMono` -/

structure Obs where
  active : Bool
  z : Option Q

/-- one step of the loop: `if (!isActive) continue; if (FFFF(z)) continue; accumulate` -/
def accum (acc : Nat × Q × Q) (o : Obs) : Nat × Q × Q :=
  if o.active then
    match o.z with
    | some v => (acc.1 + 1, acc.2.1 + v, acc.2.2 + v * v)
    | none => acc
  else acc

def moments (l : List Obs) : Nat × Q × Q := l.foldl accum (0, 0, 0)
def obsCounts (o : Obs) : Bool := o.active && o.z.isSome

/-- **Statistics: count, sum and sum of squares ignore masked and undefined values.** -/
theorem moments_removed (l : List Obs) : moments (l.filter obsCounts) = moments l := by
  rw [moments, List.foldl_filter]
  congr
  funext acc o
  rcases o with ⟨_ | _, _ | v⟩ <;> rfl

/-- non-vacuity: a masked sample and an undefined value are ignored -/
example : moments [⟨true, some 2⟩, ⟨false, some 100⟩, ⟨true, none⟩, ⟨true, some 3⟩] = (2, 5, 13) := by
  decide +kernel

end GstProofs.C05
