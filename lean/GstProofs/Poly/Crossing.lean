import GstVerif.Poly.Model
import Mathlib.Tactic.Ring
import Mathlib.Algebra.Order.Field.Basic
import Mathlib.Algebra.Order.Field.Rat

/-!
Lemmas for C20.  `onSegment`, `halfOpen`, `strictCross` and the `xinter` of `edgeStep` are statements
about the sign of the signed area `cross`, and exchanging the two ends of an edge only changes that
sign: neither orientation of an edge is treated apart.
-/
namespace GstProofs.Poly
open GstVerif GstVerif.Poly

variable {xx yy : Q} {a b : Pt}

/-- twice the signed area of `a`, `b`, `(xx, yy)`: positive iff the point is to the left of `a → b` -/
def cross (xx yy : Q) (a b : Pt) : Q := (yy - a.2) * (b.1 - a.1) - (xx - a.1) * (b.2 - a.2)

theorem cross_swap : cross xx yy b a = -cross xx yy a b := by unfold cross; ring

theorem cross_sub (e : Q) : cross xx (yy - e) a b = cross xx yy a b - e * (b.1 - a.1) := by
  unfold cross; ring

theorem cross_bot : cross xx a.2 a b = (a.1 - xx) * (b.2 - a.2) := by unfold cross; ring

theorem cross_top : cross xx b.2 a b = (b.2 - a.2) * (b.1 - xx) := by unfold cross; ring

theorem between_iff (p q x : Q) : minQ p q ≤ x ∧ x ≤ maxQ p q ↔ (x - p) * (x - q) ≤ 0 := by
  rw [mul_nonpos_iff, sub_nonneg, sub_nonneg, sub_nonpos, sub_nonpos, and_comm (a := x ≤ p)]
  unfold minQ maxQ
  split_ifs with h
  · exact ⟨.inl, fun h' => h'.resolve_right fun h' => h.not_ge (h'.1.trans h'.2)⟩
  · refine ⟨.inr, fun h' => h'.elim (fun h' => ?_) id⟩
    obtain rfl : p = q := le_antisymm (h'.1.trans h'.2) (not_lt.1 h)
    exact h'

theorem onSegment_iff : onSegment xx yy a b = true ↔
    cross xx yy a b = 0 ∧ (xx - a.1) * (xx - b.1) ≤ 0 ∧ (yy - a.2) * (yy - b.2) ≤ 0 := by
  unfold onSegment cross
  rw [Bool.and_eq_true, decide_eq_true_eq, decide_eq_true_eq, ← between_iff, ← between_iff, and_assoc,
    sub_eq_zero, eq_comm]

theorem onSegment_symm (xx yy : Q) (a b : Pt) : onSegment xx yy a b = onSegment xx yy b a := by
  rw [Bool.eq_iff_iff, onSegment_iff, onSegment_iff, cross_swap, neg_eq_zero, mul_comm (xx - b.1),
    mul_comm (yy - b.2)]

theorem onSegment_of_cross (hc : cross xx yy a b = 0) (hd : b.2 - a.2 ≠ 0)
    (hy : (yy - a.2) * (yy - b.2) ≤ 0) : onSegment xx yy a b = true := by
  refine onSegment_iff.2 ⟨hc, ?_, hy⟩
  have hc' : (xx - a.1) * (b.2 - a.2) = (yy - a.2) * (b.1 - a.1) := (sub_eq_zero.1 hc).symm
  have key : (xx - a.1) * (xx - b.1) * (b.2 - a.2) ^ 2 = (yy - a.2) * (yy - b.2) * (b.1 - a.1) ^ 2 :=
    calc _ = (xx - a.1) * (b.2 - a.2) * ((xx - a.1) * (b.2 - a.2) - (b.1 - a.1) * (b.2 - a.2)) := by ring
      _ = _ := by rw [hc']; ring
  exact nonpos_of_mul_nonpos_left (key ▸ mul_nonpos_of_nonpos_of_nonneg hy (sq_nonneg _))
    (sq_pos_of_ne_zero hd)

/-- the shape of `halfOpen` and `strictCross` -/
theorem guarded_iff {p q P Q : Prop} [Decidable p] [Decidable q] [Decidable P] [Decidable Q]
    (hP : P → p) (hQ : Q → q) (hpq : p → ¬q) :
    (if p then decide P else if q then decide Q else false) = true ↔ P ∨ Q := by
  split_ifs with hp hq
  · rw [decide_eq_true_eq]; exact ⟨.inl, fun h => h.resolve_right fun h => hpq hp (hQ h)⟩
  · rw [decide_eq_true_eq]; exact ⟨.inr, fun h => h.resolve_left fun h => hp (hP h)⟩
  · exact ⟨nofun, fun h => h.elim (fun h => absurd (hP h) hp) fun h => absurd (hQ h) hq⟩

theorem halfOpen_iff : halfOpen xx yy a b = true ↔
    (a.2 < yy ∧ yy ≤ b.2 ∧ 0 < cross xx yy a b) ∨ (b.2 < yy ∧ yy ≤ a.2 ∧ 0 < cross xx yy b a) := by
  unfold halfOpen cross
  simp only [sub_pos]
  exact guarded_iff (fun h => h.1.trans_le h.2.1) (fun h => h.1.trans_le h.2.1) lt_asymm

theorem strictCross_iff : strictCross xx yy a b = true ↔
    (a.2 < yy ∧ yy < b.2 ∧ 0 < cross xx yy a b) ∨ (b.2 < yy ∧ yy < a.2 ∧ 0 < cross xx yy b a) := by
  unfold strictCross cross
  simp only [sub_pos]
  exact guarded_iff (fun h => h.1.trans h.2.1) (fun h => h.1.trans h.2.1) lt_asymm

theorem halfOpen_symm (xx yy : Q) (a b : Pt) : halfOpen xx yy a b = halfOpen xx yy b a := by
  rw [Bool.eq_iff_iff, halfOpen_iff, halfOpen_iff, or_comm]

theorem strictCross_symm (xx yy : Q) (a b : Pt) : strictCross xx yy a b = strictCross xx yy b a := by
  rw [Bool.eq_iff_iff, strictCross_iff, strictCross_iff, or_comm]

theorem up_iff : a.2 < yy ∧ yy ≤ b.2 ∧ 0 < cross xx yy a b ↔
    (a.2 < yy ∧ yy < b.2 ∧ 0 < cross xx yy a b) ∨ (yy = b.2 ∧ b.2 > a.2 ∧ xx < b.1) := by
  constructor
  · rintro ⟨h1, h2, h3⟩
    rcases h2.lt_or_eq with h2 | rfl
    · exact .inl ⟨h1, h2, h3⟩
    · rw [cross_top, mul_pos_iff_of_pos_left (sub_pos.2 h1), sub_pos] at h3
      exact .inr ⟨rfl, h1, h3⟩
  · rintro (⟨h1, h2, h3⟩ | ⟨rfl, h1, h2⟩)
    · exact ⟨h1, h2.le, h3⟩
    · exact ⟨h1, le_rfl, by rw [cross_top]; exact mul_pos (sub_pos.2 h1) (sub_pos.2 h2)⟩

/-- `xinter` of `edgeStep` -/
abbrev xinter (yy : Q) (a b : Pt) : Q :=
  ((b.1 - a.1) * yy + (b.2 - a.2) * a.1 - (b.1 - a.1) * a.2) / (b.2 - a.2)

/-- `strad` of `edgeStep` -/
abbrev strad (yy : Q) (a b : Pt) : Prop :=
  b.2 - a.2 ≠ 0 ∧ (a.2 > yy ∧ b.2 < yy ∨ a.2 < yy ∧ b.2 > yy)

/-- one of the three `inter = 1; continue` of `edgeStep` fires -/
def resets (xx yy : Q) (a b : Pt) : Prop :=
  (b.2 - a.2 = 0 ∧ yy = a.2 ∧ (b.1 > a.1 ∧ xx > a.1 ∧ xx < b.1 ∨ b.1 < a.1 ∧ xx < a.1 ∧ xx > b.1)) ∨
  (strad yy a b ∧ xinter yy a b = xx) ∨ (xx = a.1 ∧ yy = a.2)

theorem xinter_sub (hd : b.2 - a.2 ≠ 0) : xinter yy a b - xx = cross xx yy a b / (b.2 - a.2) := by
  rw [eq_div_iff hd, sub_mul, div_mul_cancel₀ _ hd]
  unfold cross
  ring

theorem xinter_swap (yy : Q) (a b : Pt) : xinter yy b a = xinter yy a b := by
  unfold xinter
  rw [← neg_div_neg_eq]
  congr 1 <;> ring

theorem xinter_gt_iff (h : a.2 < b.2) : xinter yy a b > xx ↔ 0 < cross xx yy a b := by
  rw [gt_iff_lt, ← sub_pos, xinter_sub (sub_pos.2 h).ne', div_pos_iff_of_pos_right (sub_pos.2 h)]

theorem strad_mul_neg (h : strad yy a b) : (yy - a.2) * (yy - b.2) < 0 :=
  h.2.elim (fun h => mul_neg_of_neg_of_pos (sub_neg.2 h.1) (sub_pos.2 h.2))
    fun h => mul_neg_of_pos_of_neg (sub_pos.2 h.1) (sub_neg.2 h.2)

theorem onSegment_of_resets (h : resets xx yy a b) : onSegment xx yy a b = true := by
  rcases h with ⟨h0, rfl, h⟩ | ⟨hs, hx⟩ | ⟨rfl, rfl⟩
  · refine onSegment_iff.2 ⟨by rw [cross_bot, h0, mul_zero], ?_, by rw [sub_self, zero_mul]⟩
    rcases h with ⟨-, h1, h2⟩ | ⟨-, h1, h2⟩
    · exact (mul_neg_of_pos_of_neg (sub_pos.2 h1) (sub_neg.2 h2)).le
    · exact (mul_neg_of_neg_of_pos (sub_neg.2 h1) (sub_pos.2 h2)).le
  · refine onSegment_of_cross ?_ hs.1 (strad_mul_neg hs).le
    rwa [← sub_eq_zero, xinter_sub hs.1, div_eq_zero_iff, or_iff_left hs.1] at hx
  · exact onSegment_iff.2 ⟨by rw [cross_bot, sub_self, zero_mul], by rw [sub_self, zero_mul],
      by rw [sub_self, zero_mul]⟩

theorem strad_gt_iff : strad yy a b ∧ xinter yy a b > xx ↔ strictCross xx yy a b = true := by
  rw [strictCross_iff]
  constructor
  · rintro ⟨⟨-, h | h⟩, hx⟩
    · exact .inr ⟨h.2, h.1, (xinter_gt_iff (h.2.trans h.1)).1 (xinter_swap yy a b ▸ hx)⟩
    · exact .inl ⟨h.1, h.2, (xinter_gt_iff (h.1.trans h.2)).1 hx⟩
  · rintro (⟨h1, h2, h3⟩ | ⟨h1, h2, h3⟩)
    · exact ⟨⟨(sub_pos.2 (h1.trans h2)).ne', .inr ⟨h1, h2⟩⟩, (xinter_gt_iff (h1.trans h2)).2 h3⟩
    · exact ⟨⟨(sub_neg.2 (h1.trans h2)).ne, .inl ⟨h2, h1⟩⟩,
        xinter_swap yy b a ▸ (xinter_gt_iff (h1.trans h2)).2 h3⟩

/-- the three increments of `edgeStep` are the three ways in which `halfOpen` holds -/
theorem halfOpen_iff_steps : halfOpen xx yy a b = true ↔
    (strad yy a b ∧ xinter yy a b > xx) ∨ (yy = a.2 ∧ a.2 > b.2 ∧ xx < a.1) ∨
      (yy = b.2 ∧ b.2 > a.2 ∧ xx < b.1) := by
  rw [halfOpen_iff, up_iff, up_iff, strad_gt_iff, strictCross_iff, or_or_or_comm,
    or_comm (a := yy = b.2 ∧ _)]

theorem ite_succ {p : Prop} [Decidable p] (n : Nat) :
    (if p then n + 1 else n) = n + if p then 1 else 0 := by split <;> rfl

theorem ite_add_ite {p q : Prop} [Decidable p] [Decidable q] (h : p → ¬q) :
    ((if p then 1 else 0) + if q then 1 else 0 : Nat) = if p ∨ q then 1 else 0 := by
  by_cases hp : p
  · rw [if_pos hp, if_neg (h hp), if_pos (.inl hp)]
  · rw [if_neg hp, Nat.zero_add, if_congr (or_iff_right hp) rfl rfl]

theorem edgeStep_of_not_resets (inter : Nat) (h : ¬resets xx yy a b) :
    edgeStep xx yy inter a b = inter + if halfOpen xx yy a b then 1 else 0 := by
  obtain ⟨h1, h2, h3⟩ : _ ∧ _ ∧ _ := by rwa [resets, not_or, not_or] at h
  unfold edgeStep
  rw [if_neg h1, if_neg h2, if_neg h3, ite_succ, ite_succ, ite_succ, Nat.add_assoc, Nat.add_assoc]
  rw [ite_add_ite fun hb hc => lt_asymm hb.2.1 hc.2.1,
    ite_add_ite fun ha hbc => (strad_mul_neg ha.1).ne <|
      mul_eq_zero.2 (hbc.imp (fun h => sub_eq_zero.2 h.1) fun h => sub_eq_zero.2 h.1),
    if_congr halfOpen_iff_steps rfl rfl]

/-- **Edge lemma**: off the closed segment, the loop body adds exactly the half-open crossing
indicator; none of the three `inter = 1; continue` resets can fire. -/
theorem edgeStep_halfOpen (xx yy : Q) (inter : Nat) (a b : Pt)
    (hoff : onSegment xx yy a b = false) :
    edgeStep xx yy inter a b = inter + (if halfOpen xx yy a b then 1 else 0) :=
  edgeStep_of_not_resets inter fun h => Bool.eq_false_iff.1 hoff (onSegment_of_resets h)

def ForSmall (P : Q → Prop) : Prop := ∃ e0 : Q, 0 < e0 ∧ ∀ e, 0 < e → e < e0 → P e

theorem ForSmall.of_forall {P : Q → Prop} (h : ∀ e, 0 < e → P e) : ForSmall P :=
  ⟨1, one_pos, fun e he _ => h e he⟩

theorem ForSmall.lt {t : Q} (ht : 0 < t) : ForSmall (· < t) := ⟨t, ht, fun _ _ h => h⟩

theorem ForSmall.and {P P' : Q → Prop} (h : ForSmall P) (h' : ForSmall P') :
    ForSmall fun e => P e ∧ P' e :=
  let ⟨e1, h1, hP⟩ := h
  let ⟨e2, h2, hP'⟩ := h'
  ⟨min e1 e2, lt_min h1 h2, fun e he hlt =>
    ⟨hP e he (hlt.trans_le (min_le_left ..)), hP' e he (hlt.trans_le (min_le_right ..))⟩⟩

theorem ForSmall.mono {P P' : Q → Prop} (h : ForSmall P) (hi : ∀ e, 0 < e → P e → P' e) :
    ForSmall P' :=
  let ⟨e0, h0, hP⟩ := h
  ⟨e0, h0, fun e he hlt => hi e he (hP e he hlt)⟩

theorem ForSmall.sign {g : Q} (hg : g ≠ 0) (d : Q) : ForSmall fun e => (0 < g - e * d ↔ 0 < g) := by
  have hd : 0 < |d| + 1 := add_pos_of_nonneg_of_pos (abs_nonneg d) one_pos
  refine (ForSmall.lt (div_pos (abs_pos.2 hg) hd)).mono fun e he h => ?_
  have h' : |e * d| < |g| := by
    rw [abs_mul, abs_of_pos he]
    exact (mul_le_mul_of_nonneg_left (lt_add_one _).le he.le).trans_lt ((lt_div_iff₀ hd).1 h)
  obtain ⟨h1, h2⟩ := abs_lt.1 h'
  rcases hg.lt_or_gt with hg | hg
  · rw [abs_of_neg hg, neg_neg] at h1
    exact iff_of_false (sub_neg.2 h1).not_gt hg.not_gt
  · rw [abs_of_pos hg] at h2
    exact iff_of_true (sub_pos.2 h2) hg

theorem ray_up (hoff : onSegment xx yy a b = false) : ForSmall fun e =>
    (a.2 < yy - e ∧ yy - e < b.2 ∧ 0 < cross xx (yy - e) a b ↔
      a.2 < yy ∧ yy ≤ b.2 ∧ 0 < cross xx yy a b) := by
  by_cases h1 : a.2 < yy; swap
  · exact .of_forall fun e he => iff_of_false (fun h => h1 (h.1.trans (sub_lt_self yy he))) fun h => h1 h.1
  by_cases h2 : yy ≤ b.2; swap
  · exact (ForSmall.lt (sub_pos.2 (not_le.1 h2))).mono fun e _ he =>
      iff_of_false (fun h => (lt_sub_comm.1 he).not_gt h.2.1) fun h => h2 h.2.1
  -- `a.2 < yy ≤ b.2`: off the segment `cross ≠ 0`, and its sign persists
  have hc : cross xx yy a b ≠ 0 := fun hc => Bool.eq_false_iff.1 hoff <|
    onSegment_of_cross hc (sub_pos.2 (h1.trans_le h2)).ne'
      (mul_nonpos_of_nonneg_of_nonpos (sub_nonneg.2 h1.le) (sub_nonpos.2 h2))
  refine ((ForSmall.lt (sub_pos.2 h1)).and (ForSmall.sign hc (b.1 - a.1))).mono fun e he ⟨h3, h4⟩ => ?_
  rw [cross_sub, h4]
  exact ⟨fun h => ⟨h1, h2, h.2.2⟩,
    fun h => ⟨lt_sub_comm.1 h3, (sub_lt_self yy he).trans_le h2, h.2.2⟩⟩

theorem ray_edge (hoff : onSegment xx yy a b = false) :
    ForSmall fun e => halfOpen xx yy a b = strictCross xx (yy - e) a b :=
  ((ray_up hoff).and (ray_up (onSegment_symm xx yy a b ▸ hoff))).mono fun e _ ⟨h1, h2⟩ => by
    rw [Bool.eq_iff_iff, halfOpen_iff, strictCross_iff, h1, h2]

theorem ray_count (pts : List Pt) : onBoundary xx yy pts = false →
    ForSmall fun e => countEdges (halfOpen xx yy) pts = countEdges (strictCross xx (yy - e)) pts := by
  induction pts using countEdges.induct with
  | case1 a b rest ih =>
    rw [onBoundary, Bool.or_eq_false_iff]
    exact fun hb => ((ray_edge hb.1).and (ih hb.2)).mono fun e _ ⟨h1, h2⟩ => by
      rw [countEdges, countEdges, h1, h2]
  | case2 l h => exact fun _ => .of_forall fun _ _ => by simp only [countEdges]

theorem loop_halfOpen (pts : List Pt) : ∀ inter : Nat, onBoundary xx yy pts = false →
    loopEdges xx yy inter pts = inter + countEdges (halfOpen xx yy) pts := by
  induction pts using countEdges.induct with
  | case1 a b rest ih =>
    rw [onBoundary, Bool.or_eq_false_iff]
    exact fun inter hb => by
      rw [loopEdges, countEdges, edgeStep_halfOpen xx yy inter a b hb.1, ih _ hb.2, Nat.add_assoc]
  | case2 l h => exact fun _ _ => by simp only [loopEdges, countEdges, Nat.add_zero]

end GstProofs.Poly
